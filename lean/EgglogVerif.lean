import EgglogVerif.Model.CUF
import EgglogVerif.Model.EGraph
import EgglogVerif.Model.Extract
import EgglogVerif.Model.Index
import EgglogVerif.Model.Merge
import EgglogVerif.Model.Pool
import EgglogVerif.Model.ProofCk
import EgglogVerif.Model.Schedule
import EgglogVerif.Model.Scheduler
import EgglogVerif.Model.Session
import EgglogVerif.Model.Sexp
import EgglogVerif.Model.Table
import EgglogVerif.Model.UF
import EgglogVerif.Lemmas.List
import EgglogVerif.Lemmas.EGraph
import EgglogVerif.Lemmas.EGraphFix
import EgglogVerif.Lemmas.EGraphInv
import EgglogVerif.Lemmas.EGraphKeeps
import EgglogVerif.Lemmas.EGraphTerm
import EgglogVerif.Lemmas.Merge
import EgglogVerif.Lemmas.Sexp
import EgglogVerif.Lemmas.Table
import EgglogVerif.Lemmas.UF
import EgglogVerif.Props.C01
import EgglogVerif.Props.C02
import EgglogVerif.Props.C03
import EgglogVerif.Props.C04
import EgglogVerif.Props.C05
import EgglogVerif.Props.C06
import EgglogVerif.Props.C07
import EgglogVerif.Props.C07r
import EgglogVerif.Props.C08
import EgglogVerif.Props.C09
import EgglogVerif.Props.C10
import EgglogVerif.Props.C11
import EgglogVerif.Props.C12
import EgglogVerif.Props.C12r
import EgglogVerif.Props.C13
import EgglogVerif.Props.C14
import EgglogVerif.Props.C14c
import EgglogVerif.Model.Closure
import EgglogVerif.Props.C15
import EgglogVerif.Props.C15a
import EgglogVerif.Model.Atom
import EgglogVerif.Props.C16
import EgglogVerif.Props.C17
import EgglogVerif.Props.C17c
import EgglogVerif.Props.C18
import EgglogVerif.Props.C19
import EgglogVerif.Props.C20
import EgglogVerif.Props.C02gj
import EgglogVerif.Model.Displaced
import EgglogVerif.Props.C16d
import EgglogVerif.Model.Intern
import EgglogVerif.Props.C14i
