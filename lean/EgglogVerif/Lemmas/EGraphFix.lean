import EgglogVerif.Lemmas.EGraphKeeps
/-
What the rebuild loop has established when it stops with the "fixpoint reached" flag: every
stored key is canonical, every stored output of an id-valued table is canonical, and every table
holds one row per key.  The rows a pass writes are canonical for the partition the pass started
from (it only gets coarser, and union by min only removes representatives); so a pass that changes
no representative leaves a canonical database — and a canonical database is a fixpoint of the pass.
-/
namespace EgglogVerif.EGraph

def ArgsCanon (g : EG) (fl : List Bool) (a : List Int) : Prop := canonArgs g fl a = a
def OutCanon (g : EG) (d : Decl) (o : Int) : Prop := d.outIsId = true → g.find o = o
def RowCanon (g : EG) (d : Decl) (y : Row) : Prop := ArgsCanon g d.argIsId y.args ∧ OutCanon g d y.out

theorem argsCanon_iff (g : EG) (fl : List Bool) (a : List Int) :
    ArgsCanon g fl a ↔ ∀ i (h : i < a.length), fl.getD i false = true → g.find a[i] = a[i] := by
  unfold ArgsCanon
  simp only [List.ext_getElem_iff, canonArgs_length, canonArgs_getElem, true_and, ite_eq_right_iff]
  exact ⟨fun e i h => e i h h, fun e i h _ => e i h⟩

theorem ArgsCanon.of_coarser {g g' : EG} (h : g.WF) (h' : g'.WF) (c : Coarser g g') {fl : List Bool} {a : List Int}
    (ha : ArgsCanon g' fl a) : ArgsCanon g fl a :=
  (argsCanon_iff g fl a).mpr fun i hi hb => c.find_fixed h h' ((argsCanon_iff g' fl a).mp ha i hi hb)

theorem RowCanon.of_coarser {g g' : EG} (h : g.WF) (h' : g'.WF) (c : Coarser g g') {d : Decl} {y : Row}
    (hy : RowCanon g' d y) : RowCanon g d y :=
  ⟨hy.1.of_coarser h h' c, fun hd => c.find_fixed h h' (hy.2 hd)⟩

theorem RowCanon.congr {g g' : EG} (h : g.WF) (h' : g'.WF) (hrt : ∀ x, g'.rt x = g.rt x) {d : Decl} {y : Row}
    (hy : RowCanon g d y) : RowCanon g' d y :=
  -- equal partitions are each coarser than the other
  hy.of_coarser h' h (.of_rt_eq h' fun x => (hrt x).symm)

theorem canonRow_rowCanon {g : EG} (h : g.WF) (d : Decl) (r : Row) : RowCanon g d (g.canonRow d r) := by
  refine ⟨canonArgs_idem h _ _, fun hd => ?_⟩
  unfold EG.canonRow
  rw [if_pos hd]; exact find_idem h _

theorem canonRow_of_canon {g : EG} {d : Decl} {y : Row} (c : RowCanon g d y) : g.canonRow d y = y := by
  unfold EG.canonRow
  rw [c.1, ite_eq_right_iff.mpr c.2]

/-! ### the rows a pass writes -/

/-- `rows` is as `Canonical` wants table `f`, for the partition of `g` — which need not be the state that holds
the rows: a pass writes them while the partition moves on -/
def TabCanon (g : EG) (f : Nat) (rows : List Row) : Prop :=
  (∀ y ∈ rows, RowCanon g (g.decl f) y) ∧ UniqueKeys rows

theorem rbFold_unique (d : Decl) (todo : List Row) (acc : EG × List Row) (hu : UniqueKeys acc.2) :
    UniqueKeys (todo.foldl (rbStep d) acc).2 :=
  List.foldlRecOn todo (rbStep d) (motive := fun acc => UniqueKeys acc.2) hu
    fun acc hu _ _ => insertInto_unique acc.1 d acc.2 _ hu

/-- every row the fold writes was canonical when it was written, hence is for the (finer) partition `g0` -/
theorem rbFold_rowCanon {g0 : EG} (h0 : g0.WF) (d : Decl) (todo : List Row) (acc : EG × List Row)
    (h : acc.1.WF) (c : Coarser g0 acc.1) (hc : ∀ y ∈ acc.2, RowCanon g0 d y) :
    ∀ y' ∈ (todo.foldl (rbStep d) acc).2, RowCanon g0 d y' := by
  induction todo generalizing acc with
  | nil => exact hc
  | cons r todo ih =>
    have m := insertInto_merged h d acc.2 (acc.1.canonRow d r)
    exact ih _ m.wf (c.trans m.coarser) <|
      insertInto_forall _ d _ _ (J := fun a o => ArgsCanon g0 d.argIsId a ∧ OutCanon g0 d o) <|
      List.forall_mem_cons.mpr ⟨(canonRow_rowCanon h d r).of_coarser h0 h c, hc⟩

theorem rebuildTable_table {g : EG} (h : g.WF) (f f' : Nat) : (rebuildTable g f).table f' =
    if f' = f then ((g.table f).foldl (rbStep (g.decl f)) (g, [])).2 else g.table f' := by
  have m := (rbFold_keeps (g.decl f) h (g.table f) []).1
  rw [rebuildTable_eq, setTable_table, m.table, m.tables]
  by_cases he : f' = f
  · subst he
    by_cases hf : f' < g.tables.size
    · simp [hf]
    · simp [hf, table_of_ge g (Nat.le_of_not_lt hf)]
  · simp [he]

theorem rebuildTable_tabCanon {g0 g : EG} (h0 : g0.WF) (k : Keeps g0 g) (f : Nat) :
    TabCanon g0 f ((rebuildTable g f).table f) := by
  rw [rebuildTable_table k.wf, if_pos rfl]
  unfold TabCanon
  rw [← k.decl f]
  exact ⟨rbFold_rowCanon h0 _ _ _ k.wf k.coarser (List.forall_mem_nil _), rbFold_unique _ _ _ .nil⟩

theorem rebuildPass_tabCanon {g : EG} (h : g.WF) (f : Nat) : TabCanon g f ((rebuildPass g).table f) := by
  have key : Keeps g (rebuildPass g) ∧ ∀ f ∈ List.range g.tables.size, TabCanon g f ((rebuildPass g).table f) := by
    refine foldl_invariant rebuildTable (fun done g1 => Keeps g g1 ∧ ∀ f ∈ done, TabCanon g f (g1.table f))
      ⟨.refl h, List.forall_mem_nil _⟩ ?_ (List.range g.tables.size)
    intro done g1 f ⟨k, hc⟩
    refine ⟨k.trans (keeps_rebuildTable k.wf f), fun f' hf' => ?_⟩
    by_cases he : f' = f
    · subst he; exact rebuildTable_tabCanon h k f'
    · rw [rebuildTable_table k.wf, if_neg he]
      exact hc f' ((List.mem_append.mp hf').resolve_right (mt List.mem_singleton.mp he))
  by_cases hf : f < g.tables.size
  · exact key.2 f (List.mem_range.mpr hf)
  · rw [table_of_ge _ (key.1.size ▸ Nat.le_of_not_lt hf)]; exact ⟨List.forall_mem_nil _, .nil⟩

/-- every stored key and id-valued output is canonical, one row per key -/
structure Canonical (g : EG) : Prop where
  rows : ∀ f, ∀ y ∈ g.table f, RowCanon g (g.decl f) y
  keys : ∀ f, UniqueKeys (g.table f)

theorem Canonical.row_unique {g : EG} (c : Canonical g) {f : Nat} {y1 y2 : Row} (h1 : y1 ∈ g.table f)
    (h2 : y2 ∈ g.table f) (e : canonArgs g (g.decl f).argIsId y1.args = canonArgs g (g.decl f).argIsId y2.args) :
    y1 = y2 := by
  rw [(c.rows f y1 h1).1, (c.rows f y2 h2).1] at e
  exact eq_of_pairwise_ne (c.keys f) h1 h2 e

theorem rebuildPass_canonical {g : EG} (h : g.WF) (hrt : ∀ x, (rebuildPass g).rt x = g.rt x) :
    Canonical (rebuildPass g) := by
  have k := keeps_rebuildPass h
  refine ⟨fun f y hy => ?_, fun f => (rebuildPass_tabCanon h f).2⟩
  rw [k.decl]
  exact ((rebuildPass_tabCanon h f).1 y hy).congr h k.wf hrt

/-- **The rebuild loop, when it reports a fixpoint, returns a canonical database.** -/
theorem rebuild_canonical : ∀ (fuel : Nat) (g : EG), g.WF → (rebuild fuel g).2 = true →
    Canonical (rebuild fuel g).1 ∧ (rebuild fuel g).1.WF := by
  intro fuel g
  fun_induction rebuild fuel g with
  | case1 => exact fun _ hf => nomatch hf
  | case2 fuel g g' hs =>
    exact fun h _ => ⟨rebuildPass_canonical h (sameAs_rt (keeps_rebuildPass h).wf h hs), (keeps_rebuildPass h).wf⟩
  | case3 fuel g g' hs ih => exact fun h hf => ih (keeps_rebuildPass h).wf hf

/-! ### a canonical database is a fixpoint of the pass -/

/-- canonical rows with fresh keys go through the fold unchanged -/
theorem rbFold_canon_id {g : EG} {d : Decl} (todo keep : List Row) (hc : ∀ y ∈ todo, RowCanon g d y)
    (hu : UniqueKeys (keep ++ todo)) : todo.foldl (rbStep d) (g, keep) = (g, keep ++ todo) := by
  induction todo generalizing keep with
  | nil => rw [List.append_nil]; rfl
  | cons r todo ih =>
    have hr : ∀ x ∈ keep, x.args ≠ r.args := fun x hx =>
      (List.pairwise_append.mp hu).2.2 x hx r List.mem_cons_self
    rw [List.append_cons] at hu ⊢
    rw [← ih _ (fun y hy => hc y (List.mem_cons_of_mem _ hy)) hu, List.foldl_cons, rbStep,
      canonRow_of_canon (hc r List.mem_cons_self), insertInto_fresh _ _ _ _ hr]

theorem rebuildPass_canonical_id {g : EG} (c : Canonical g) : rebuildPass g = g :=
  List.foldlRecOn _ rebuildTable (motive := (· = g)) rfl fun _ e f _ => by
    rw [e, rebuildTable_eq, rbFold_canon_id (g.table f) [] (c.rows f) (List.nil_append _ ▸ c.keys f)]
    dsimp only [List.nil_append]
    exact setTable_self g f

end EgglogVerif.EGraph
