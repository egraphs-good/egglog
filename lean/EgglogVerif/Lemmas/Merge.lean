import EgglogVerif.Model.Merge
/-
Lemmas for C05.  The notion everything rests on: after any insertion path the entry of key `k` is
`foldVals m ((t k).toList ++ valsFor ws k)` — the fold of the merge over the entry's old value (if
there was one) followed by the values written to `k`.
-/
set_option linter.unusedSectionVars false
namespace EgglogVerif.Merge

variable {K V : Type} [DecidableEq K] [DecidableEq V]

structure ACI (m : V → V → V) : Prop where
  assoc : ∀ a b c, m (m a b) c = m a (m b c)
  comm : ∀ a b, m a b = m b a
  idem : ∀ a, m a a = a

theorem foldVals_mergeOpt (m : V → V → V) (o : Option V) (v : V) (vs : List V) :
    foldVals m (mergeOpt m o v :: vs) = foldVals m (o.toList ++ v :: vs) := by
  cases o <;> rfl

theorem foldVals_toList (m : V → V → V) (o : Option V) : foldVals m o.toList = o := by
  cases o <;> rfl

/-- merging a pre-folded batch into an entry = folding its values in one by one -/
theorem foldVals_append_foldVals {m : V → V → V} (hassoc : ∀ a b c, m (m a b) c = m a (m b c))
    (o : Option V) (vs : List V) :
    foldVals m (o.toList ++ (foldVals m vs).toList) = foldVals m (o.toList ++ vs) := by
  cases vs with
  | nil => rfl
  | cons v vs =>
    cases o with
    | none => rfl
    | some c => exact congrArg some (List.foldl_assoc (ha := ⟨hassoc⟩)).symm

theorem foldVals_perm {m : V → V → V} (h : ACI m) :
    ∀ {l₁ l₂ : List V}, l₁.Perm l₂ → foldVals m l₁ = foldVals m l₂ := by
  intro l₁ l₂ p
  induction p with
  | nil => rfl
  | cons x _ ih =>
    -- `x :: l` read as `(some x).toList ++ l`: fold the tail first, where the hypothesis applies
    show foldVals m ((some x).toList ++ _) = foldVals m ((some x).toList ++ _)
    rw [← foldVals_append_foldVals h.assoc, ih, foldVals_append_foldVals h.assoc]
  | swap x y l => exact congrArg (fun v => some (l.foldl m v)) (h.comm y x)
  | trans _ _ ih1 ih2 => rw [ih1, ih2]

theorem valsFor_cons (kv : K × V) (ws : List (K × V)) (k : K) :
    valsFor (kv :: ws) k = if kv.1 = k then kv.2 :: valsFor ws k else valsFor ws k := by
  unfold valsFor
  by_cases h : kv.1 = k <;> simp [h]

theorem valsFor_filter (p : K → Prop) [DecidablePred p] (ws : List (K × V)) (k : K) :
    valsFor (ws.filter fun kv => p kv.1) k = if p k then valsFor ws k else [] := by
  -- `p` is only consulted on the key `k`
  have e : ∀ kv : K × V, (decide (kv.1 = k) && decide (p kv.1)) = (decide (kv.1 = k) && decide (p k)) := fun kv => by
    by_cases h : kv.1 = k <;> simp [h]
  unfold valsFor
  rw [List.filter_filter]
  simp only [e]
  by_cases hp : p k <;> simp [hp]

theorem valsFor_map_key (c : K → K) (ws : List (K × V)) (k : K) :
    valsFor (ws.map fun kv => (c kv.1, kv.2)) k = (ws.filter fun kv => c kv.1 = k).map (·.2) := by
  simp only [valsFor, List.filter_map, List.map_map]
  rfl

theorem valsFor_eq_nil (ws : List (K × V)) (k : K) : valsFor ws k = [] ↔ k ∉ ws.map (·.1) := by
  rw [valsFor, List.map_eq_nil_iff, List.filter_eq_nil_iff, List.mem_map]
  exact ⟨fun h hk => hk.elim fun a ha => h a ha.1 (decide_eq_true ha.2),
    fun h a ha e => h ⟨a, ha, of_decide_eq_true e⟩⟩

theorem serialInsert_apply (m : V → V → V) (t : Tbl K V) (ws : List (K × V)) (k : K) :
    serialInsert m t ws k = foldVals m ((t k).toList ++ valsFor ws k) := by
  induction ws generalizing t with
  | nil => show t k = foldVals m ((t k).toList ++ []); rw [List.append_nil, foldVals_toList]
  | cons kv ws ih =>
    show serialInsert m (write m t kv) ws k = _
    rw [ih, valsFor_cons, write]
    by_cases h : kv.1 = k
    · rw [if_pos h, if_pos h.symm]; exact foldVals_mergeOpt m (t k) kv.2 _
    · rw [if_neg h, if_neg (Ne.symm h)]

theorem mem_firstKeys (ks : List K) (x : K) : x ∈ firstKeys ks ↔ x ∈ ks := by
  induction ks with
  | nil => exact Iff.rfl
  | cons k ks ih =>
    simp only [firstKeys, List.mem_cons, List.mem_filter, ih]
    by_cases h : x = k <;> simp [h]

theorem nodup_firstKeys (ks : List K) : (firstKeys ks).Nodup := by
  induction ks with
  | nil => exact List.nodup_nil
  | cons k ks ih =>
    simp only [firstKeys, List.nodup_cons]
    exact ⟨by simp [List.mem_filter], ih.filter _⟩

/-- a loop over duplicate-free indices whose step `i` rewrites only the keys of class `i`, each from
its own old value (flush loop: index = key; shard loop: index = shard) -/
theorem foldl_local {ι : Type} [DecidableEq ι] (cls : K → ι) (h : K → Option V → Option V)
    (f : Tbl K V → ι → Tbl K V) (hf : ∀ t i k, f t i k = if cls k = i then h k (t k) else t k) :
    ∀ (is : List ι) (t : Tbl K V) (k : K), is.Nodup →
      is.foldl f t k = if cls k ∈ is then h k (t k) else t k := by
  intro is
  induction is with
  | nil => intro t k _; rfl
  | cons i is ih =>
    intro t k hnd
    obtain ⟨hi, hnd'⟩ := List.nodup_cons.mp hnd
    rw [List.foldl_cons, ih (f t i) k hnd', hf t i k]
    by_cases hk : cls k = i
    · subst hk
      rw [if_neg hi, if_pos rfl, if_pos List.mem_cons_self]
    · simp only [List.mem_cons, hk, false_or, if_false]

theorem flush_singleton (m : V → V → V) (t st : Tbl K V) (a k : K) :
    flush m t st [a] k = if k = a then foldVals m ((t k).toList ++ (st k).toList) else t k := by
  show (match st a with | none => t | some v => write m t (a, v)) k = _
  by_cases h : k = a
  · subst h
    rw [if_pos rfl]
    cases st k with
    | none => show t k = foldVals m ((t k).toList ++ []); rw [List.append_nil, foldVals_toList]
    | some v => exact (if_pos rfl).trans (foldVals_mergeOpt m (t k) v [])
  · rw [if_neg h]
    cases st a with
    | none => rfl
    | some v => exact if_neg h

theorem flush_apply (m : V → V → V) (t st : Tbl K V) (keys : List K) (hnd : keys.Nodup) (k : K) :
    flush m t st keys k = if k ∈ keys then foldVals m ((t k).toList ++ (st k).toList) else t k :=
  -- `flush m t st keys` is by definition `keys.foldl (fun t a => flush m t st [a]) t`
  foldl_local (fun k => k) (fun k o => foldVals m (o.toList ++ (st k).toList)) (fun t a => flush m t st [a])
    (fun t => flush_singleton m t st) keys t k hnd

theorem stagedInsert_apply {m : V → V → V} (hassoc : ∀ a b c, m (m a b) c = m a (m b c))
    (t : Tbl K V) (ws : List (K × V)) (k : K) :
    stagedInsert m t ws k = foldVals m ((t k).toList ++ valsFor ws k) := by
  have hst : stage m ws k = foldVals m (valsFor ws k) := serialInsert_apply m empty ws k
  rw [stagedInsert, flush_apply m t _ (batchKeys ws) (nodup_firstKeys _), hst]
  split
  · exact foldVals_append_foldVals hassoc (t k) _
  · rename_i hk
    rw [(valsFor_eq_nil ws k).mpr fun h => hk ((mem_firstKeys _ _).mpr h), List.append_nil, foldVals_toList]

end EgglogVerif.Merge
