/-
General facts about lists that several of the developments need and core does not state.
-/
namespace EgglogVerif

theorem snoc_induction {α : Type} {motive : List α → Prop} (nil : motive [])
    (snoc : ∀ l x, motive l → motive (l ++ [x])) (l : List α) : motive l := by
  rw [← List.reverse_reverse l]
  induction l.reverse with
  | nil => exact nil
  | cons x xs ih => rw [List.reverse_cons]; exact snoc _ x ih

/-- invariants of a left fold may mention the part of the list already consumed -/
theorem foldl_invariant {α β : Type} (f : β → α → β) (I : List α → β → Prop) {b : β} (h0 : I [] b)
    (step : ∀ done b a, I done b → I (done ++ [a]) (f b a)) (l : List α) : I l (l.foldl f b) := by
  suffices ∀ l done b, I done b → I (done ++ l) (l.foldl f b) from this l [] b h0
  intro l
  induction l with
  | nil => intro done b h; simpa using h
  | cons a l ih => intro done b h; simpa using ih (done ++ [a]) (f b a) (step _ _ _ h)

theorem getElem?_concat_eq_some {α : Type} {l : List α} {a b : α} {i : Nat} :
    (l ++ [a])[i]? = some b ↔ l[i]? = some b ∨ (i = l.length ∧ b = a) := by
  rcases Nat.lt_trichotomy i l.length with h | rfl | h
  · rw [List.getElem?_append_left h]
    exact ⟨Or.inl, fun o => o.elim id fun e => absurd e.1 (Nat.ne_of_lt h)⟩
  · rw [List.getElem?_concat_length, List.getElem?_eq_none (Nat.le_refl _)]
    exact ⟨fun e => Or.inr ⟨rfl, (Option.some.inj e).symm⟩, fun o => o.elim nofun fun e => e.2 ▸ rfl⟩
  · rw [List.getElem?_eq_none (by rw [List.length_append]; exact h), List.getElem?_eq_none (Nat.le_of_lt h)]
    exact ⟨nofun, fun o => o.elim nofun fun e => absurd e.1 (Nat.ne_of_gt h)⟩

theorem eq_of_pairwise_ne {α β : Type} {f : α → β} {l : List α}
    (h : l.Pairwise (fun a b => f a ≠ f b)) {a b : α} (ha : a ∈ l) (hb : b ∈ l) (hf : f a = f b) : a = b :=
  List.Pairwise.forall_of_forall_of_flip (R := fun a b => f a = f b → a = b) (fun _ _ _ => rfl)
    (h.imp fun hne heq => absurd heq hne) (h.imp fun hne heq => absurd heq.symm hne) ha hb hf

/-- when the entry `a` at one position is replaced by `b`, every other member is still there -/
theorem mem_replace {α : Type} {pre post : List α} {a x : α} (b : α) (h : x ∈ pre ++ a :: post) :
    x = a ∨ x ∈ pre ++ b :: post := by
  simp only [List.mem_append, List.mem_cons] at h ⊢
  rcases h with h | h | h
  · exact .inr (.inl h)
  · exact .inl h
  · exact .inr (.inr (.inr h))

theorem countP_lt_of_witness {α : Type} {p q : α → Bool} {l : List α} (hsub : ∀ x ∈ l, p x = true → q x = true)
    {x : α} (hx : x ∈ l) (hq : q x = true) (hp : p x = false) : l.countP p < l.countP q := by
  obtain ⟨l1, l2, rfl⟩ := List.append_of_mem hx
  have h1 : l1.countP p ≤ l1.countP q := List.countP_mono_left fun y hy => hsub y (List.mem_append_left _ hy)
  have h2 : l2.countP p ≤ l2.countP q :=
    List.countP_mono_left fun y hy => hsub y (List.mem_append_right _ (List.mem_cons_of_mem _ hy))
  simp only [List.countP_append, List.countP_cons, hq, hp, if_true, Bool.false_eq_true, if_false]
  exact Nat.lt_succ_of_le (Nat.add_le_add h1 h2)

end EgglogVerif
