import EgglogVerif.Model.Table
import EgglogVerif.Lemmas.List
/-
Helper lemmas for C16: the well-formedness invariant of the table model and its preservation
by the single-row steps and by compaction.  Rows are written in two ways only: marked stale
(`deleteOne`), or pushed at the end with their key pointed at them (`Table.append`); `insertOne` is
neither, the second, or the first then the second (`insertOne_eq`).
-/
namespace EgglogVerif.Table

theorem getElem?_set_none_eq_some {α : Type} {l : List (Option α)} {a : α} {i j : Nat} :
    (l.set i none)[j]? = some (some a) ↔ i ≠ j ∧ l[j]? = some (some a) := by
  by_cases hij : i = j
  · rw [hij, List.getElem?_set_self']
    cases l[j]? <;> simp
  · rw [List.getElem?_set_ne hij]
    exact ⟨fun h => ⟨hij, h⟩, And.right⟩

def live (l : List (Option Row)) : List Row := l.filterMap id

theorem scan_eq_live (t : Table) : t.scan = live t.rows := rfl

theorem mem_live_iff {l : List (Option Row)} {r : Row} : r ∈ live l ↔ ∃ i : Nat, l[i]? = some (some r) := by
  rw [live, List.mem_filterMap]
  simp only [id_eq, exists_eq_right, List.mem_iff_getElem?]

theorem live_append (a b : List (Option Row)) : live (a ++ b) = live a ++ live b := List.filterMap_append

theorem live_set_none_sublist (l : List (Option Row)) (i : Nat) : (live (l.set i none)).Sublist (live l) := by
  induction l generalizing i with
  | nil => exact .slnil
  | cons a l ih =>
    cases i with
    | zero => cases a with
      | none => exact List.Sublist.refl _
      | some r => exact .cons r (List.Sublist.refl _)
    | succ i => cases a with
      | none => exact ih i
      | some r => exact .cons_cons r (ih i)

/-- **The invariant**: the hash index is exactly the set of live rows, one per key. -/
structure WF (t : Table) : Prop where
  sync : ∀ k i, t.hash k = some i ↔ ∃ r, t.rows[i]? = some (some r) ∧ keyOf t.nKeys r = k
  nodupKeys : ((live t.rows).map (keyOf t.nKeys)).Nodup

/-- `nodupKeys` follows from `sync`: two live rows with one key would both be what that key's entry points at -/
theorem WF.of_sync {t : Table}
    (h : ∀ k i, t.hash k = some i ↔ ∃ r, t.rows[i]? = some (some r) ∧ keyOf t.nKeys r = k) : WF t := by
  refine ⟨h, ?_⟩
  rw [List.Nodup, List.pairwise_map, live, List.pairwise_filterMap, List.pairwise_iff_getElem]
  intro i j hi hj hij r hr r' hr' e
  have hi' := (h _ i).mpr ⟨r, hr ▸ List.getElem?_eq_getElem hi, e⟩
  have hj' := (h _ j).mpr ⟨r', hr' ▸ List.getElem?_eq_getElem hj, rfl⟩
  exact Nat.ne_of_lt hij (Option.some.inj (hi'.symm.trans hj'))

theorem WF.of_rows_nil {t : Table} (hr : t.rows = []) (hh : ∀ k, t.hash k = none) : WF t :=
  .of_sync fun k i => by simp [hr, hh]

theorem WF.empty (n : Nat) : WF (Table.empty n) := .of_rows_nil rfl fun _ => rfl

theorem WF.inj {t : Table} (h : WF t) {k k' : Key} {i : Nat} (h1 : t.hash k = some i) (h2 : t.hash k' = some i) :
    k = k' := by
  obtain ⟨r, hr, rfl⟩ := (h.sync k i).mp h1
  obtain ⟨r', hr', rfl⟩ := (h.sync k' i).mp h2
  cases hr.symm.trans hr'
  rfl

theorem WF.getRow_of_hash {t : Table} (h : WF t) {k : Key} {i : Nat} (hh : t.hash k = some i) :
    ∃ r, t.rows[i]? = some (some r) ∧ keyOf t.nKeys r = k ∧ t.getRow k = some r := by
  obtain ⟨r, hr, hk⟩ := (h.sync k i).mp hh
  exact ⟨r, hr, hk, by simp [Table.getRow, Table.rowAt, hh, hr]⟩

theorem getRow_iff {t : Table} (h : WF t) (k : Key) (r : Row) :
    t.getRow k = some r ↔ r ∈ t.scan ∧ keyOf t.nKeys r = k := by
  simp only [Table.getRow, scan_eq_live, Option.bind_eq_some_iff, h.sync, Table.rowAt, Option.join_eq_some_iff,
    mem_live_iff]
  constructor
  · rintro ⟨i, ⟨r', hr', hk⟩, hr⟩
    cases hr'.symm.trans hr
    exact ⟨⟨i, hr⟩, hk⟩
  · rintro ⟨⟨i, hr⟩, hk⟩
    exact ⟨i, ⟨r, hr, hk⟩, hr⟩

theorem getRow_congr {t t' : Table} (h : WF t) (h' : WF t') (hn : t'.nKeys = t.nKeys)
    (hs : t'.scan = t.scan) (k : Key) : t'.getRow k = t.getRow k :=
  Option.ext fun r => by rw [getRow_iff h, getRow_iff h', hs, hn]

theorem getRow_eq_of_entry {t t' : Table} {k : Key} (hh : t'.hash k = t.hash k)
    (hr : ∀ i, t.hash k = some i → t'.rows[i]? = t.rows[i]?) : t'.getRow k = t.getRow k := by
  unfold Table.getRow
  rw [hh]
  cases hi : t.hash k with
  | none => rfl
  | some i => simp only [Option.bind_some, Table.rowAt, hr i hi]

/-! ### deleteOne -/

theorem deleteOne_spec {t : Table} (h : WF t) (k : Key) :
    WF (t.deleteOne k) ∧ (t.deleteOne k).nKeys = t.nKeys ∧
      ∀ k', (t.deleteOne k).getRow k' = if k' = k then none else t.getRow k' := by
  unfold Table.deleteOne
  cases hh : t.hash k with
  | none =>
    refine ⟨h, rfl, fun k' => ?_⟩
    by_cases hk : k' = k
    · simp [hk, Table.getRow, hh]
    · simp [hk]
  | some i =>
    have hne : ∀ {k' i'}, t.hash k' = some i' → k' ≠ k → i ≠ i' := fun hk' hkk e => hkk (h.inj hk' (e ▸ hh))
    refine ⟨.of_sync fun k' i' => ?_, rfl, fun k' => ?_⟩
    · -- an id other than `i` keeps its row and its entry; `i` held the row of `k`, and both are gone
      simp only [getElem?_set_none_eq_some, and_assoc, exists_and_left, ← h.sync]
      by_cases hkk : k' = k
      · simp [hkk, hh]
      · simp only [if_neg hkk]
        exact ⟨fun hk' => ⟨hne hk' hkk, hk'⟩, And.right⟩
    · by_cases hkk : k' = k
      · simp [Table.getRow, hkk]
      · rw [if_neg hkk]
        exact getRow_eq_of_entry (if_neg hkk) fun i' hk' => List.getElem?_set_ne (hne hk' hkk)

/-! ### insertOne -/

/-- what an insertion does to the key → row map -/
def upsert (n : Nat) (m : Row → Row → Option Row) (f : Key → Option Row) (r : Row) : Key → Option Row :=
  fun k' => if k' = keyOf n r then
      some (match f k' with
        | none => r
        | some cur => (m cur r).getD cur)
    else f k'

/-- `upsert` reads `f k'` under the test `k' = keyOf n r`; here the entry read is `f (keyOf n r)`, which is the
form a fact about that entry rewrites -/
theorem upsert_apply (n : Nat) (m : Row → Row → Option Row) (f : Key → Option Row) (r : Row) (k' : Key) :
    upsert n m f r k' =
      if k' = keyOf n r then some (match f (keyOf n r) with | none => r | some cur => (m cur r).getD cur)
      else f k' := by
  unfold upsert
  exact ite_congr rfl (fun hk => by rw [hk]) fun _ => rfl

def Table.append (t : Table) (k : Key) (r : Row) : Table :=
  { t with rows := t.rows ++ [some r], hash := fun k' => if k' = k then some t.rows.length else t.hash k' }

theorem append_spec {t : Table} (h : WF t) {k : Key} {r : Row} (hk : keyOf t.nKeys r = k)
    (hh : t.hash k = none) :
    WF (t.append k r) ∧ ∀ k', (t.append k r).getRow k' = if k' = k then some r else t.getRow k' := by
  refine ⟨.of_sync fun k' i' => ?_, fun k' => ?_⟩
  · -- an old id keeps its row and its entry; the new id `t.rows.length` had no entry and now has `r` under `k`
    simp only [Table.append, getElem?_concat_eq_some, Option.some.injEq, or_and_right, exists_or, and_assoc,
      exists_and_left, exists_eq_left, ← h.sync, hk]
    by_cases hkk : k' = k
    · simp [hkk, hh, eq_comm]
    · simp [hkk, Ne.symm hkk]
  · by_cases hkk : k' = k
    · simp [hkk, Table.getRow, Table.append, Table.rowAt]
    · rw [if_neg hkk]
      refine getRow_eq_of_entry (if_neg hkk) fun i' hk' => ?_
      obtain ⟨_, hr, _⟩ := h.getRow_of_hash hk'
      exact List.getElem?_append_left (List.getElem?_eq_some_iff.mp hr).1

theorem insertOne_eq (m : Row → Row → Option Row) (t : Table) (r : Row) :
    t.insertOne m r =
      match t.hash (keyOf t.nKeys r) with
      | none => t.append (keyOf t.nKeys r) r
      | some i =>
        match (t.rowAt i).bind (m · r) with
        | none => t
        | some merged => (t.deleteOne (keyOf t.nKeys r)).append (keyOf t.nKeys r) merged := by
  dsimp only [Table.insertOne]
  cases hh : t.hash (keyOf t.nKeys r) with
  | none => rfl
  | some i =>
    dsimp only
    cases t.rowAt i with
    | none => rfl
    | some cur =>
      dsimp only [Option.bind_some]
      cases m cur r with
      | none => rfl
      | some merged =>
        -- the second write overrides the `none` the first one left for the key
        simp only [Table.deleteOne, hh, Table.append, List.length_set]
        congr
        funext k'
        exact ite_congr rfl (fun _ => rfl) fun hn => (if_neg hn).symm

/-- what the store needs of the merge function, which it only calls with two rows of the same key -/
def KeepsSameKey (n : Nat) (m : Row → Row → Option Row) : Prop :=
  ∀ cur new merged, keyOf n cur = keyOf n new → m cur new = some merged → keyOf n merged = keyOf n new

theorem insertOne_spec_of_sameKey {m : Row → Row → Option Row} {t : Table} (h : WF t)
    (hk : KeepsSameKey t.nKeys m) (r : Row) :
    WF (t.insertOne m r) ∧ (t.insertOne m r).nKeys = t.nKeys ∧
      ∀ k', (t.insertOne m r).getRow k' = upsert t.nKeys m t.getRow r k' := by
  rw [insertOne_eq]
  cases hh : t.hash (keyOf t.nKeys r) with
  | none =>
    have hg : t.getRow (keyOf t.nKeys r) = none := by simp [Table.getRow, hh]
    obtain ⟨w, g⟩ := append_spec h rfl hh
    exact ⟨w, rfl, fun k' => by rw [g, upsert_apply, hg]⟩
  | some i =>
    obtain ⟨cur, hcur, hkc, hg⟩ := h.getRow_of_hash hh
    have hrow : t.rowAt i = some cur := congrArg Option.join hcur
    simp only [hrow, Option.bind_some]
    cases hmr : m cur r with
    | none =>
      refine ⟨h, rfl, fun k' => ?_⟩
      simp only [upsert_apply, hg, hmr, Option.getD_none]
      exact (ite_eq_right_iff.mpr fun hk => by rw [hk, hg]).symm
    | some merged =>
      obtain ⟨w, n, g⟩ := deleteOne_spec h (keyOf t.nKeys r)
      have hkm : keyOf (t.deleteOne (keyOf t.nKeys r)).nKeys merged = keyOf t.nKeys r := by
        rw [n]; exact hk cur r merged hkc hmr
      obtain ⟨w', g'⟩ := append_spec w hkm (by simp [Table.deleteOne, hh])
      refine ⟨w', n, fun k' => ?_⟩
      simp only [g', g, upsert_apply, hg, hmr, Option.getD_some]
      exact ite_congr rfl (fun _ => rfl) fun hn => if_neg hn

theorem insertOne_spec {m : Row → Row → Option Row} {t : Table} (h : WF t)
    (hm : ∀ cur new merged, m cur new = some merged → keyOf t.nKeys merged = keyOf t.nKeys cur) (r : Row) :
    WF (t.insertOne m r) ∧ (t.insertOne m r).nKeys = t.nKeys ∧
      ∀ k', (t.insertOne m r).getRow k' = upsert t.nKeys m t.getRow r k' :=
  insertOne_spec_of_sameKey h (fun _ _ _ e hmr => (hm _ _ _ hmr).trans e) r

/-! ### compaction -/

theorem compactLoop_rows (n : Nat) (rest out : List (Option Row)) (h : Key → Option Nat) :
    (compactLoop n rest out h).1 = out ++ (live rest).map some := by
  fun_induction compactLoop n rest out h with
  | case1 => simp [live]
  | case2 rest out h ih => exact ih
  | case3 r rest out h ih => rw [ih, List.append_assoc]; rfl

theorem compactLoop_hash_of_not_mem {n : Nat} {rest out : List (Option Row)} {h : Key → Option Nat} {k : Key}
    (hk : k ∉ (live rest).map (keyOf n)) : (compactLoop n rest out h).2 k = h k := by
  fun_induction compactLoop n rest out h with
  | case1 => rfl
  | case2 rest out h ih => exact ih hk
  | case3 r rest out h ih =>
    have hk' : k ≠ keyOf n r ∧ k ∉ (live rest).map (keyOf n) := not_or.mp fun o => hk (List.mem_cons.mpr o)
    exact (ih hk'.2).trans (if_neg hk'.1)

theorem compactLoop_hash_of_getElem {n : Nat} {rest out : List (Option Row)} {h : Key → Option Nat}
    (hnd : ((live rest).map (keyOf n)).Nodup) {i : Nat} {r : Row} (hr : (live rest)[i]? = some r) :
    (compactLoop n rest out h).2 (keyOf n r) = some (out.length + i) := by
  fun_induction compactLoop n rest out h generalizing i with
  | case1 => cases hr
  | case2 rest out h ih => exact ih hnd hr
  | case3 r₀ rest out h ih =>
    have hnd' := List.nodup_cons.mp (show (keyOf n r₀ :: (live rest).map (keyOf n)).Nodup from hnd)
    cases i with
    | zero =>
      cases (show some r₀ = some r from hr)
      rw [compactLoop_hash_of_not_mem hnd'.1, if_pos rfl]; rfl
    | succ i =>
      rw [ih hnd'.2 (show (live rest)[i]? = some r from hr), List.length_append, List.length_singleton,
        Nat.add_assoc, Nat.add_comm 1]

theorem rehash_spec {t : Table} (h : WF t) :
    WF t.rehash ∧ t.rehash.nKeys = t.nKeys ∧ t.rehash.scan = t.scan ∧
      (∀ o ∈ t.rehash.rows, o ≠ none) ∧ (∀ k, t.rehash.getRow k = t.getRow k) := by
  have hrows : t.rehash.rows = (live t.rows).map some :=
    (compactLoop_rows t.nKeys t.rows [] t.hash).trans (List.nil_append _)
  have hlive : live t.rehash.rows = live t.rows := by
    rw [hrows, live, List.filterMap_map]; exact List.filterMap_some
  have hwf : WF t.rehash := by
    refine .of_sync fun k j => ?_
    rw [hrows]
    simp only [List.getElem?_map, Option.map_eq_some_iff, Option.some.injEq, exists_eq_right]
    show (compactLoop t.nKeys t.rows [] t.hash).2 k = some j ↔ ∃ r, (live t.rows)[j]? = some r ∧ keyOf t.nKeys r = k
    constructor
    · intro hk
      -- a key without a live row would have kept its old entry, and the old index has no such entry
      have hmem : k ∈ (live t.rows).map (keyOf t.nKeys) := Decidable.byContradiction fun hn => by
        rw [compactLoop_hash_of_not_mem hn] at hk
        obtain ⟨r, hr, hkr⟩ := (h.sync k j).mp hk
        exact hn (List.mem_map.mpr ⟨r, mem_live_iff.mpr ⟨j, hr⟩, hkr⟩)
      obtain ⟨r, hr, rfl⟩ := List.mem_map.mp hmem
      obtain ⟨i, hi⟩ := List.mem_iff_getElem?.mp hr
      rw [compactLoop_hash_of_getElem h.nodupKeys hi] at hk
      cases hk
      exact ⟨r, by rwa [List.length_nil, Nat.zero_add], rfl⟩
    · rintro ⟨r, hr, rfl⟩
      rw [compactLoop_hash_of_getElem h.nodupKeys hr, List.length_nil, Nat.zero_add]
  have hscan : t.rehash.scan = t.scan := hlive  -- `scan_eq_live` on both sides
  refine ⟨hwf, rfl, hscan, ?_, getRow_congr h hwf rfl hscan⟩
  rw [hrows]
  intro o ho
  obtain ⟨r, _, rfl⟩ := List.mem_map.mp ho
  exact Option.some_ne_none r

theorem maybeRehash_cases {P : Table → Prop} {t : Table} (h : P t) (hr : P t.rehash) : P t.maybeRehash := by
  unfold Table.maybeRehash
  split
  · exact h
  · exact hr

theorem maybeRehash_scan {t : Table} (h : WF t) : t.maybeRehash.scan = t.scan :=
  maybeRehash_cases (P := (·.scan = t.scan)) rfl (rehash_spec h).2.2.1

end EgglogVerif.Table
