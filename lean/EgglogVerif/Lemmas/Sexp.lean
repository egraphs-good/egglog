import EgglogVerif.Model.Sexp
/-
The lexer of `Model/Sexp.lean` (shared by C09 and C15): what `skipWs`, `nextTok` and `lexAll` do at the
start of a token, and `lexOther` as a span (`lexOther_eq`: the characters up to the first delimiter).
-/
namespace EgglogVerif.Sexp

theorem skipWs_space (cs : List Char) : skipWs (' ' :: cs) false = skipWs cs false := by
  rw [skipWs, if_neg (by decide), if_neg (by decide), if_pos (by decide)]

theorem skipWs_cons {c : Char} (cs : List Char) (hw : isWs c = false) (hs : c ≠ ';') :
    skipWs (c :: cs) false = c :: cs := by
  have hnl : c ≠ '\n' := fun e => by rw [e] at hw; exact absurd hw (by decide)
  rw [skipWs, if_neg hs, if_neg hnl, if_neg (by simp [hw]), if_neg (by decide)]

theorem nextTok_space (cs : List Char) : nextTok (' ' :: cs) = nextTok cs := by
  unfold nextTok; rw [skipWs_space]

theorem lexAll_space (fuel : Nat) (cs : List Char) : lexAll fuel (' ' :: cs) = lexAll fuel cs := by
  cases fuel with
  | zero => rfl
  | succ n => rw [lexAll, lexAll, nextTok_space]

theorem nextTok_open (r : List Char) : nextTok ('(' :: r) = some (some (.open, r)) := by
  unfold nextTok; rw [skipWs_cons r (by decide) (by decide)]; rfl

theorem nextTok_close (r : List Char) : nextTok (')' :: r) = some (some (.close, r)) := by
  unfold nextTok; rw [skipWs_cons r (by decide) (by decide)]; rfl

/-- characters that end an atom -/
def isDelim (c : Char) : Bool := isWs c || c = ';' || c = '(' || c = ')'

theorem lexOther_eq (cs acc : List Char) :
    lexOther cs acc = (acc.reverse ++ cs.takeWhile (!isDelim ·), cs.dropWhile (!isDelim ·)) := by
  induction cs generalizing acc with
  | nil => simp [lexOther]
  | cons c cs ih =>
    rw [lexOther]
    change (if isDelim c = true then _ else _) = _
    cases hc : isDelim c
    · simp [ih, hc]
    · simp [hc]

theorem lexOther_atom (s acc : List Char) {d : Char} (rest : List Char) (h : ∀ c ∈ s, isDelim c = false)
    (hd : isDelim d = true) : lexOther (s ++ d :: rest) acc = (acc.reverse ++ s, d :: rest) := by
  have hs : ∀ c ∈ s, (!isDelim c) = true := fun c hc => by rw [h c hc]; rfl
  rw [lexOther_eq, List.takeWhile_append_of_pos hs, List.dropWhile_append_of_pos hs]
  simp only [List.takeWhile_cons, List.dropWhile_cons, hd, Bool.not_true, Bool.false_eq_true, if_false, List.append_nil]

end EgglogVerif.Sexp
