import EgglogVerif.Model.UF
/-
Forests over `Nat → Nat` with every parent ≤ its child (C17), and the array model as such a forest.
`root f` is the only function that fixes the roots and is constant along parent pointers (`root_unique`).
Path compression and linking both redirect ONE pointer to a smaller id (`upd`); what that does to the
representatives is read off `root_upd_unique`.
-/
namespace EgglogVerif.UF

/-- union by min only ever points an id at a smaller one -/
def FInv (f : Nat → Nat) : Prop := ∀ x, f x ≤ x

def rootF (f : Nat → Nat) : Nat → Nat → Nat
  | 0, x => x
  | n + 1, x => if f x = x then x else rootF f n (f x)

/-- the representative of `x` in forest `f` -/
def root (f : Nat → Nat) (x : Nat) : Nat := rootF f x x

theorem FInv.lt {f : Nat → Nat} (h : FInv f) {x : Nat} (hx : f x ≠ x) : f x < x :=
  Nat.lt_of_le_of_ne (h x) hx

theorem rootF_of_fix {f : Nat → Nat} {x : Nat} (hx : f x = x) : ∀ n, rootF f n x = x
  | 0 => rfl
  | _ + 1 => if_pos hx

theorem rootF_succ_of_ne {f : Nat → Nat} {x : Nat} (hx : f x ≠ x) (n : Nat) :
    rootF f (n + 1) x = rootF f n (f x) :=
  if_neg hx

theorem FInv.induction {f : Nat → Nat} (h : FInv f) {P : Nat → Prop} (fix : ∀ x, f x = x → P x)
    (step : ∀ x, f x ≠ x → P (f x) → P x) (x : Nat) : P x := by
  induction x using Nat.strongRecOn with
  | _ x ih =>
    by_cases hx : f x = x
    · exact fix x hx
    · exact step x hx (ih _ (h.lt hx))

theorem rootF_of_le {f : Nat → Nat} (h : FInv f) : ∀ x n, x ≤ n → rootF f n x = root f x :=
  h.induction (fun x hx n _ => by rw [root, rootF_of_fix hx, rootF_of_fix hx]) fun x hx ih n hn => by
    have hlt := h.lt hx
    cases n with
    | zero => exact absurd (Nat.lt_of_lt_of_le hlt hn) (Nat.not_lt_zero _)
    | succ n =>
      cases x with
      | zero => exact absurd hlt (Nat.not_lt_zero _)
      | succ x =>
        rw [root, rootF_succ_of_ne hx, rootF_succ_of_ne hx, ih n (Nat.le_of_lt_succ (Nat.lt_of_lt_of_le hlt hn)),
          ih x (Nat.le_of_lt_succ hlt)]

theorem root_of_fix {f : Nat → Nat} {x : Nat} (hx : f x = x) : root f x = x :=
  rootF_of_fix hx x

theorem root_step {f : Nat → Nat} (h : FInv f) (x : Nat) : root f (f x) = root f x := by
  by_cases hx : f x = x
  · rw [hx]
  · rw [← rootF_of_le h _ _ (h x), ← rootF_of_le h _ _ (Nat.le_succ x), rootF_succ_of_ne hx]

theorem root_eq {f : Nat → Nat} (h : FInv f) (x : Nat) :
    root f x = if f x = x then x else root f (f x) := by
  split
  · exact root_of_fix ‹_›
  · exact (root_step h x).symm

theorem root_le {f : Nat → Nat} (h : FInv f) : ∀ x, root f x ≤ x :=
  h.induction (fun _ hx => Nat.le_of_eq (root_of_fix hx))
    (fun x _ ih => root_step h x ▸ Nat.le_trans ih (h x))

theorem root_is_fix {f : Nat → Nat} (h : FInv f) : ∀ x, f (root f x) = root f x :=
  h.induction (fun x hx => by rw [root_of_fix hx, hx]) (fun x _ ih => root_step h x ▸ ih)

theorem root_idem {f : Nat → Nat} (h : FInv f) (x : Nat) : root f (root f x) = root f x :=
  root_of_fix (root_is_fix h x)

theorem root_unique {f : Nat → Nat} (h : FInv f) {r : Nat → Nat} (hfix : ∀ x, f x = x → r x = x)
    (hstep : ∀ x, f x ≠ x → r (f x) = r x) : ∀ x, root f x = r x :=
  h.induction (fun x hx => by rw [root_of_fix hx, hfix x hx])
    (fun x hx ih => by rw [← root_step h, ih, hstep x hx])

def upd (f : Nat → Nat) (c g : Nat) : Nat → Nat := fun x => if x = c then g else f x

theorem upd_self (f : Nat → Nat) (c g : Nat) : upd f c g c = g := if_pos rfl

theorem upd_of_ne (f : Nat → Nat) {c x : Nat} (g : Nat) (hx : x ≠ c) : upd f c g x = f x := if_neg hx

theorem FInv.upd {f : Nat → Nat} (h : FInv f) {c g : Nat} (hg : g ≤ c) : FInv (upd f c g) := by
  intro x
  by_cases hx : x = c
  · rw [hx, upd_self]; exact hg
  · rw [upd_of_ne f g hx]; exact h x

theorem root_upd_unique {f : Nat → Nat} (h : FInv f) {c g : Nat} (hg : g < c) {r : Nat → Nat}
    (hfix : ∀ x, x ≠ c → f x = x → r x = x) (hstep : ∀ x, x ≠ c → r (f x) = r x) (hc : r g = r c) :
    ∀ x, root (upd f c g) x = r x := by
  refine root_unique (FInv.upd h (Nat.le_of_lt hg)) (fun x hx => ?_) (fun x _ => ?_)
  · have hxc : x ≠ c := by rintro rfl; rw [upd_self] at hx; exact Nat.ne_of_lt hg hx
    exact hfix x hxc (upd_of_ne f g hxc ▸ hx)
  · by_cases hxc : x = c
    · rw [hxc, upd_self, hc]
    · rw [upd_of_ne f g hxc, hstep x hxc]

/-- path compression: pointing `c` at one of its proper ancestors changes no root -/
theorem root_compress {f : Nat → Nat} (h : FInv f) {c g : Nat} (hg : g < c)
    (hanc : root f g = root f c) : ∀ x, root (upd f c g) x = root f x :=
  root_upd_unique h hg (fun _ _ => root_of_fix) (fun x _ => root_step h x) hanc

/-- linking a root `c` under a smaller node `q`: the class of `c` joins that of `q` -/
theorem root_link {f : Nat → Nat} (h : FInv f) {c q : Nat} (hc : f c = c) (hq : q < c) :
    ∀ x, root (upd f c q) x = if root f x = c then root f q else root f x := by
  have hqc : root f q ≠ c := Nat.ne_of_lt (Nat.lt_of_le_of_lt (root_le h q) hq)
  refine root_upd_unique h hq (fun x hxc hx => ?_) (fun x _ => ?_) ?_
  · rw [root_of_fix hx, if_neg hxc]
  · rw [root_step h]
  · rw [root_of_fix hc, if_neg hqc, if_pos rfl]

/-- a statement about the larger and the smaller of two distinct numbers, from the two orders -/
theorem max_min_rec {P : Nat → Nat → Prop} {r s : Nat} (hne : r ≠ s) (hrs : r < s → P s r)
    (hsr : s < r → P r s) : P (max r s) (min r s) := by
  rcases Nat.lt_or_gt_of_ne hne with h | h
  · rw [Nat.max_eq_right (Nat.le_of_lt h), Nat.min_eq_left (Nat.le_of_lt h)]; exact hrs h
  · rw [Nat.max_eq_left (Nat.le_of_lt h), Nat.min_eq_right (Nat.le_of_lt h)]; exact hsr h

theorem max_min_cases {r s : Nat} (hne : r ≠ s) :
    min r s < max r s ∧ ((max r s = r ∧ min r s = s) ∨ (max r s = s ∧ min r s = r)) :=
  max_min_rec (P := fun c m => m < c ∧ ((c = r ∧ m = s) ∨ (c = s ∧ m = r))) hne
    (fun lt => ⟨lt, .inr ⟨rfl, rfl⟩⟩) (fun lt => ⟨lt, .inl ⟨rfl, rfl⟩⟩)

theorem root_link_max {f : Nat → Nat} (h : FInv f) {r s : Nat} (hr : f r = r) (hs : f s = s) (hne : r ≠ s) :
    min r s < max r s ∧ ∀ x, root (upd f (max r s) (min r s)) x =
      if root f x = max r s then min r s else root f x :=
  max_min_rec (P := fun c m => m < c ∧ ∀ x, root (upd f c m) x = if root f x = c then m else root f x) hne
    (fun hlt => ⟨hlt, fun x => by rw [root_link h hs hlt, root_of_fix hr]⟩)
    (fun hlt => ⟨hlt, fun x => by rw [root_link h hr hlt, root_of_fix hs]⟩)

/-! ### Array refinement -/

def AInv (p : Parents) : Prop := FInv (par p)

theorem par_lt_size {p : Parents} {x : Nat} (hx : x < p.size) : par p x = p[x] := by
  simp [par, Array.getD, hx]

theorem par_ge_size {p : Parents} {x : Nat} (hx : p.size ≤ x) : par p x = x := by
  unfold par
  simp [Array.getD, Nat.not_lt.mpr hx]

theorem par_reserve (p : Parents) (v : Nat) : par (reserve p v) = par p := by
  funext x
  unfold reserve
  split
  · rfl
  · by_cases hx : x < p.size
    · rw [par_lt_size hx, par_lt_size (Nat.lt_of_lt_of_eq (Nat.lt_add_right _ hx) Array.size_append.symm),
        Array.getElem_append_left hx]
    · rw [par_ge_size (Nat.le_of_not_lt hx)]
      by_cases hx2 : x < (p ++ Array.range' p.size (v + 1 - p.size)).size
      · rw [par_lt_size hx2, Array.getElem_append_right (Nat.le_of_not_lt hx), Array.getElem_range', Nat.one_mul,
          Nat.add_sub_cancel' (Nat.le_of_not_lt hx)]
      · exact par_ge_size (Nat.le_of_not_lt hx2)

theorem reserve_of_lt {p : Parents} {v : Nat} (hv : v < p.size) : reserve p v = p := if_pos hv

theorem size_reserve (p : Parents) (v : Nat) : v < (reserve p v).size ∧ p.size ≤ (reserve p v).size := by
  unfold reserve
  split
  · exact ⟨by assumption, Nat.le_refl _⟩
  · rw [Array.size_append, Array.size_range', Nat.add_comm p.size]
    exact ⟨Nat.le_add_of_sub_le (Nat.le_refl _), Nat.le_add_left _ _⟩

theorem par_set {p : Parents} {c g : Nat} (hc : c < p.size) :
    par (p.setIfInBounds c g) = upd (par p) c g := by
  funext x
  simp only [par, Array.getD_eq_getD_getElem?, Array.getElem?_setIfInBounds, upd]
  by_cases hx : x = c
  · rw [if_pos hx.symm, if_pos hc, if_pos hx]; rfl
  · rw [if_neg (Ne.symm hx), if_neg hx]

theorem par_reset (p : Parents) (x : Nat) : par (reset p) x = x := by
  unfold par reset
  by_cases hx : x < p.size <;> simp [Array.getD, hx]

theorem AInv.reserve {p : Parents} (h : AInv p) (v : Nat) : AInv (reserve p v) := by
  unfold AInv; rw [par_reserve]; exact h

theorem AInv.set {p : Parents} (h : AInv p) {c g : Nat} (hc : c < p.size) (hg : g ≤ c) :
    AInv (p.setIfInBounds c g) := by
  unfold AInv; rw [par_set hc]; exact FInv.upd h hg

theorem AInv.of_id {p : Parents} (h : ∀ x, par p x = x) : AInv p := fun x => Nat.le_of_eq (h x)

theorem root_of_id {p : Parents} (h : ∀ x, par p x = x) (x : Nat) : root (par p) x = x :=
  root_of_fix (h x)

theorem par_empty (x : Nat) : par #[] x = x := par_ge_size (Nat.zero_le x)

theorem findNaiveLoop_eq_rootF (p : Parents) (fuel cur : Nat) :
    findNaiveLoop p fuel cur = rootF (par p) fuel cur := by
  induction fuel generalizing cur with
  | zero => rfl
  | succ n ih => simp only [findNaiveLoop, rootF, ih, eq_comm]

theorem findNaive_eq {p : Parents} (h : AInv p) (x : Nat) : findNaive p x = root (par p) x := by
  unfold findNaive
  split
  · rename_i hx
    rw [root_of_fix (par_ge_size hx)]
  · rw [findNaiveLoop_eq_rootF, rootF_of_le h x _ (Nat.le_succ x)]

theorem lt_size_of_par_ne {p : Parents} {x : Nat} (hx : par p x ≠ x) : x < p.size :=
  Nat.lt_of_not_le fun hle => hx (par_ge_size hle)

theorem findLoop_spec (fuel : Nat) (p : Parents) (cur : Nat) (h : AInv p) (hc : cur < fuel) :
    let r := findLoop fuel p cur
    AInv r.1 ∧ r.2 = root (par p) cur ∧ (∀ x, root (par r.1) x = root (par p) x) ∧ r.1.size = p.size := by
  fun_induction findLoop fuel p cur with
  | case1 => exact absurd hc (Nat.not_lt_zero _)
  | case2 _ p cur _ hp => exact ⟨h, (root_of_fix hp.symm).symm, fun _ => rfl, rfl⟩
  | case3 n p cur parent hp g ih =>
    -- one halving step `cur ↦ g` is a compression: `g` is a proper ancestor of `cur`
    have hanc : root (par p) g = root (par p) cur := by rw [root_step h, root_step h]
    have hg : g < cur := Nat.lt_of_le_of_lt (h _) (h.lt (Ne.symm hp))
    have hsz := lt_size_of_par_ne (Ne.symm hp)
    have hroots : ∀ x, root (par (p.setIfInBounds cur g)) x = root (par p) x := by
      rw [par_set hsz]; exact root_compress h hg hanc
    obtain ⟨i1, i2, i3, i4⟩ := ih (h.set hsz (Nat.le_of_lt hg)) (Nat.lt_of_lt_of_le hg (Nat.le_of_lt_succ hc))
    exact ⟨i1, by rw [i2, hroots, hanc], fun x => by rw [i3, hroots],
      by rw [i4, Array.size_setIfInBounds]⟩

theorem find_spec (p : Parents) (x : Nat) (h : AInv p) :
    AInv (find p x).1 ∧ (find p x).2 = root (par p) x ∧
      (∀ y, root (par (find p x).1) y = root (par p) y) ∧
      x < (find p x).1.size ∧ p.size ≤ (find p x).1.size := by
  unfold find
  obtain ⟨i1, i2, i3, i4⟩ := findLoop_spec (x + 1) (reserve p x) x (h.reserve x) (Nat.lt_succ_self _)
  rw [par_reserve] at i2 i3
  rw [i4]
  exact ⟨i1, i2, i3, size_reserve p x⟩

/-- `find_spec` for a call whose result has been named (`rcases e : find p x with ⟨q, r⟩`) -/
theorem find_spec_of_eq {p q : Parents} {x r : Nat} (h : AInv p) (e : find p x = (q, r)) :
    AInv q ∧ r = root (par p) x ∧ (∀ y, root (par q) y = root (par p) y) ∧ x < q.size ∧ p.size ≤ q.size := by
  have := find_spec p x h
  rwa [e] at this

theorem union_spec (p : Parents) (a b : Nat) (h : AInv p) :
    let ra := root (par p) a
    let rb := root (par p) b
    AInv (union p a b).1 ∧
    (union p a b).2 = (if ra ≠ rb then (min ra rb, max ra rb) else (ra, ra)) ∧
    (∀ x, root (par (union p a b).1) x =
      if ra ≠ rb ∧ root (par p) x = max ra rb then min ra rb else root (par p) x) := by
  intro ra rb
  -- `dsimp only` turns each `let (q, r) := find ..` into `.1`/`.2` of the call; `rcases e : find .. with ⟨q, r⟩`
  -- then puts the pair for the call everywhere (the projections reduce) and keeps `e` for `find_spec_of_eq`
  dsimp only [union]
  rcases e1 : find (reserve (reserve p a) b) a with ⟨q1, ra'⟩
  rcases e2 : find q1 b with ⟨q2, rb'⟩
  dsimp only
  obtain ⟨a1, a2, a3, a4, -⟩ := find_spec_of_eq ((h.reserve a).reserve b) e1
  obtain ⟨b1, b2, b3, b4, b5⟩ := find_spec_of_eq a1 e2
  rw [par_reserve, par_reserve] at a2 a3
  have hroots : ∀ x, root (par q2) x = root (par p) x := fun x => by rw [b3, a3]
  obtain rfl : ra' = ra := a2
  obtain rfl : rb' = rb := by rw [b2, a3]
  by_cases hne : ra = rb
  · rw [if_neg (not_not_intro hne), if_neg (not_not_intro hne)]
    exact ⟨b1, rfl, fun x => by rw [if_neg (fun c => c.1 hne), hroots]⟩
  · rw [if_pos hne, if_pos hne]
    have hfa : par q2 ra = ra := by have := root_is_fix b1 a; rwa [hroots] at this
    have hfb : par q2 rb = rb := by have := root_is_fix b1 b; rwa [hroots] at this
    obtain ⟨hlt, hlink⟩ := root_link_max b1 hfa hfb hne
    have hsz : max ra rb < q2.size :=
      Nat.max_lt.mpr ⟨Nat.lt_of_le_of_lt (root_le h a) (Nat.lt_of_lt_of_le a4 b5),
        Nat.lt_of_le_of_lt (root_le h b) b4⟩
    refine ⟨b1.set hsz (Nat.le_of_lt hlt), rfl, fun x => ?_⟩
    rw [par_set hsz, hlink, hroots]
    simp only [ne_eq, hne, not_false_eq_true, true_and]

theorem AInv.union {p : Parents} (h : AInv p) (a b : Nat) : AInv (union p a b).1 := (union_spec p a b h).1

/-- `union` without `min`/`max`: one of the two representatives is redirected to the other -/
theorem union_roots (p : Parents) (a b : Nat) (h : AInv p) :
    ∃ c m, ((c = root (par p) a ∧ m = root (par p) b) ∨ (c = root (par p) b ∧ m = root (par p) a)) ∧
      ∀ x, root (par (union p a b).1) x = if root (par p) x = c then m else root (par p) x := by
  have hu := (union_spec p a b h).2.2
  generalize root (par p) a = ra at hu ⊢
  generalize root (par p) b = rb at hu ⊢
  by_cases hab : ra = rb
  · refine ⟨ra, rb, Or.inl ⟨rfl, rfl⟩, fun x => ?_⟩
    rw [hu, if_neg (fun c => c.1 hab)]
    split
    · rename_i hx
      rw [hx, hab]
    · rfl
  · refine ⟨max ra rb, min ra rb, ?_, fun x => ?_⟩
    · exact (max_min_cases hab).2
    · rw [hu]
      simp only [ne_eq, hab, not_false_eq_true, true_and]

/-! ### sizes -/

theorem size_find_of_lt {p : Parents} {x : Nat} (h : AInv p) (hx : x < p.size) : (find p x).1.size = p.size := by
  unfold find
  rw [reserve_of_lt hx]
  exact (findLoop_spec (x + 1) p x h (Nat.lt_succ_self _)).2.2.2

theorem size_union (p : Parents) (a b : Nat) (h : AInv p) :
    (union p a b).1.size = (reserve (reserve p a) b).size := by
  have ha : a < (reserve (reserve p a) b).size := Nat.lt_of_lt_of_le (size_reserve p a).1 (size_reserve _ b).2
  have s1 := size_find_of_lt ((h.reserve a).reserve b) ha
  have s2 := size_find_of_lt (find_spec _ a ((h.reserve a).reserve b)).1 (s1.symm ▸ (size_reserve _ b).1)
  have s := s2.trans s1
  dsimp only [union]
  generalize find (find (reserve (reserve p a) b) a).1 b = r2 at s ⊢
  split
  · rw [Array.size_setIfInBounds, s]
  · exact s

theorem size_union_of_lt {p : Parents} {a b : Nat} (h : AInv p) (ha : a < p.size) (hb : b < p.size) :
    (union p a b).1.size = p.size := by
  rw [size_union p a b h, reserve_of_lt ha, reserve_of_lt hb]

theorem size_le_union (p : Parents) (a b : Nat) (h : AInv p) : p.size ≤ (union p a b).1.size := by
  rw [size_union p a b h]
  exact Nat.le_trans (size_reserve p a).2 (size_reserve _ b).2

end EgglogVerif.UF
