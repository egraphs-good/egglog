import EgglogVerif.Lemmas.EGraphKeeps
/-
The history invariant of the e-graph model: what the state remembers of the unions requested
(`U`) and the rows inserted (`R`) so far — completeness half (`unions`, `pres`) — and that every
identification and every stored row is justified by them — soundness half (`sound`, `just`).
The completeness half is carried by any step that keeps every stored row (`Keeps`); the soundness
half is shown per primitive.
-/
namespace EgglogVerif.EGraph

/-- a row as it was inserted (ghost history) -/
structure IRow where
  f : Nat
  args : List Int
  out : Int
deriving DecidableEq, Repr

/-- Congruence closure of the requested unions `U` over the inserted rows `R`: the least equivalence
on ids containing `U` and closed under "two rows of one constructor table (`unionId` merge) whose id
columns are pairwise related and whose base-value columns are pairwise equal have related outputs". -/
inductive CC (ds : Nat → Decl) (U : List (Nat × Nat)) (R : List IRow) : Nat → Nat → Prop
  | base {a b} : (a, b) ∈ U → CC ds U R a b
  | refl (a) : CC ds U R a a
  | symm {a b} : CC ds U R a b → CC ds U R b a
  | trans {a b c} : CC ds U R a b → CC ds U R b c → CC ds U R a c
  | congr {r1 r2 : IRow} : r1 ∈ R → r2 ∈ R → r1.f = r2.f → (ds r1.f).merge = .unionId →
      r1.args.length = r2.args.length →
      (∀ i (h1 : i < r1.args.length) (h2 : i < r2.args.length),
        (ds r1.f).argIsId.getD i false = true → CC ds U R (r1.args[i]).toNat (r2.args[i]).toNat) →
      (∀ i (h1 : i < r1.args.length) (h2 : i < r2.args.length),
        (ds r1.f).argIsId.getD i false = false → r1.args[i] = r2.args[i]) →
      CC ds U R r1.out.toNat r2.out.toNat

theorem CC.equivalence (ds : Nat → Decl) (U R) : Equivalence (CC ds U R) :=
  ⟨CC.refl, CC.symm, CC.trans⟩

theorem CC.mono {ds : Nat → Decl} {U U' : List (Nat × Nat)} {R R' : List IRow}
    (hU : ∀ p, p ∈ U → p ∈ U') (hR : ∀ r, r ∈ R → r ∈ R') {a b} (h : CC ds U R a b) : CC ds U' R' a b := by
  induction h with
  | base hu => exact CC.base (hU _ hu)
  | refl => exact CC.refl _
  | symm _ ih => exact CC.symm ih
  | trans _ _ ih1 ih2 => exact CC.trans ih1 ih2
  | congr h1 h2 hf hm hl _ hb ih => exact CC.congr (hR _ h1) (hR _ h2) hf hm hl ih hb

theorem CC.congr' {ds : Nat → Decl} {U R} {r1 r2 : IRow} (h1 : r1 ∈ R) (h2 : r2 ∈ R) (hf : r1.f = r2.f)
    (hm : (ds r1.f).merge = .unionId) (ha : ArgsRel (CC ds U R) (ds r1.f).argIsId r1.args r2.args) :
    CC ds U R r1.out.toNat r2.out.toNat :=
  CC.congr h1 h2 hf hm ha.1 (fun i a b hb => ((ha.2 i a b).1 hb)) (fun i a b hb => ((ha.2 i a b).2 hb))

/-- a stored row is justified by an inserted row of the same table (asked of constructor tables only: outputs
of the other tables are never unioned, so `CC` does not speak of them) -/
def Just (ds : Nat → Decl) (U : List (Nat × Nat)) (R : List IRow) (f : Nat) (y : Row) : Prop :=
  (ds f).merge = .unionId → ∃ r0 ∈ R, r0.f = f ∧ ArgsRel (CC ds U R) (ds f).argIsId y.args r0.args ∧
    CC ds U R y.out.toNat r0.out.toNat

theorem Just.mono {ds : Nat → Decl} {U U' : List (Nat × Nat)} {R R' : List IRow}
    (hU : ∀ p, p ∈ U → p ∈ U') (hR : ∀ r, r ∈ R → r ∈ R') {f y} (h : Just ds U R f y) : Just ds U' R' f y := by
  intro hm
  obtain ⟨r0, h0, e1, e2, e3⟩ := h hm
  exact ⟨r0, hR _ h0, e1, e2.mono (fun _ _ => CC.mono hU hR), CC.mono hU hR e3⟩

/-- a row related, column by column, to a justified row is justified (by the same inserted row) -/
theorem Just.of_rel {ds : Nat → Decl} {U R f} {y y' : Row} (h : Just ds U R f y)
    (ha : ArgsRel (CC ds U R) (ds f).argIsId y'.args y.args)
    (ho : (ds f).merge = .unionId → CC ds U R y'.out.toNat y.out.toNat) : Just ds U R f y' := by
  intro hm
  obtain ⟨r0, h0, e1, e2, e3⟩ := h hm
  exact ⟨r0, h0, e1, ha.trans (CC.equivalence ds U R) e2, CC.trans (ho hm) e3⟩

theorem Just.collide {ds : Nat → Decl} {U R f} {a b : Row} (ha : Just ds U R f a) (hb : Just ds U R f b)
    (hk : a.args = b.args) (hm : (ds f).merge = .unionId) : CC ds U R a.out.toNat b.out.toNat := by
  -- the two inserted rows that justify `a` and `b` are congruent
  obtain ⟨ra, hra, rfl, aa, oa⟩ := ha hm
  obtain ⟨rb, hrb, fb, ab, ob⟩ := hb hm
  have e := CC.equivalence ds U R
  exact e.trans oa (e.trans (CC.congr' hra hrb fb.symm hm ((aa.symm e).trans e (hk ▸ ab))) (e.symm ob))

theorem Just.canon {ds : Nat → Decl} {U R f} {g : EG} (h : g.WF) (hP : g.Finer (CC ds U R))
    {y : Row} (hy : Just ds U R f y) : Just ds U R f (g.canonRow (ds f) y) :=
  hy.of_rel ((canonArgs_rel h _ _).mono hP) fun _ => hP _ _ (canonRow_out_rt h _ y)

theorem insertInto_just {ds : Nat → Decl} {U R} {f : Nat} {d : Decl} (hd : ds f = d) {g : EG} (h : g.WF)
    (hP : g.Finer (CC ds U R)) {rows : List Row} {r : Row} (hJ : ∀ y ∈ r :: rows, Just ds U R f y) :
    (insertInto g d rows r).1.Finer (CC ds U R) ∧
    ∀ y' ∈ (insertInto g d rows r).2, Just ds U R f y' := by
  subst hd
  refine ⟨insertInto_sound h (ds f) rows r (CC.equivalence ds U R) hP fun cur hcur hk hm =>
    (hJ cur (List.mem_cons_of_mem _ hcur)).collide (hJ r List.mem_cons_self) hk hm, fun y' hy' => ?_⟩
  obtain ⟨y, hy, e1, e2⟩ := insertInto_pre g (ds f) rows r y' hy'
  exact (hJ y hy).of_rel (e1 ▸ .refl CC.refl _ _) fun _ => e2 ▸ CC.refl _

theorem rbFold_sound {ds : Nat → Decl} {U R} {f : Nat} {d : Decl} (hd : ds f = d) (todo : List Row)
    (acc : EG × List Row) (h : acc.1.WF) (hP : acc.1.Finer (CC ds U R))
    (hJ : ∀ y ∈ acc.2, Just ds U R f y) (hT : ∀ y ∈ todo, Just ds U R f y) :
    (todo.foldl (rbStep d) acc).1.Finer (CC ds U R) ∧
    (∀ y' ∈ (todo.foldl (rbStep d) acc).2, Just ds U R f y') := by
  refine (List.foldlRecOn todo (rbStep d)
    (motive := fun acc => acc.1.WF ∧ acc.1.Finer (CC ds U R) ∧ ∀ y ∈ acc.2, Just ds U R f y)
    ⟨h, hP, hJ⟩ fun acc ih r hr => ?_).2
  obtain ⟨h, hP, hJ⟩ := ih
  exact ⟨(insertInto_merged h _ _ _).wf,
    insertInto_just hd h hP (List.forall_mem_cons.mpr ⟨hd ▸ (hT r hr).canon h hP, hJ⟩)⟩

/-! ### the invariant -/

/-- the inserted row `(args, out)` of table `f` still has an image in the state -/
def HasImg (g : EG) (f : Nat) (args : List Int) (out : Int) : Prop :=
  ∃ y' ∈ g.table f, canonArgs g (g.decl f).argIsId y'.args = canonArgs g (g.decl f).argIsId args ∧
    ((g.decl f).merge = .unionId → g.rt y'.out.toNat = g.rt out.toNat)

theorem RowImg.hasImg {g : EG} {f : Nat} {y : Row} (hi : RowImg g (g.decl f) (g.table f) y) : HasImg g f y.args y.out := by
  obtain ⟨y', hy', a, o, _⟩ := hi
  exact ⟨y', hy', a, o⟩

theorem HasImg.keeps {g g' : EG} (h : g.WF) (k : Keeps g g') {f : Nat} {args out} (hi : HasImg g f args out) :
    HasImg g' f args out := by
  -- `HasImg` is `RowImg` of the row `⟨args, out, false⟩`, whose flag asks nothing
  obtain ⟨y, hy, a, o⟩ := hi
  exact (k.rowImg h (y := ⟨args, out, false⟩) ⟨y, hy, a, o, nofun⟩).hasImg

structure Inv (ds : Nat → Decl) (g : EG) (U : List (Nat × Nat)) (R : List IRow) : Prop where
  wf : g.WF
  decl : ∀ f, g.decl f = ds f
  unions : ∀ a b, (a, b) ∈ U → g.rt a = g.rt b
  pres : ∀ r ∈ R, HasImg g r.f r.args r.out
  sound : ∀ x y, g.rt x = g.rt y → CC ds U R x y
  just : ∀ f, ∀ y ∈ g.table f, Just ds U R f y

/-- the completeness half follows from `Keeps`; the new history has to record what is new (`hU`, `hR`) and
to justify what the new state identifies and stores (`hs`, `hj`) -/
theorem Inv.step {ds : Nat → Decl} {g g' : EG} {U U' : List (Nat × Nat)} {R R' : List IRow} (i : Inv ds g U R)
    (k : Keeps g g')
    (hU : ∀ p, p ∈ U' → p ∈ U ∨ g'.rt p.1 = g'.rt p.2)
    (hR : ∀ r, r ∈ R' → r ∈ R ∨ HasImg g' r.f r.args r.out)
    (hs : g'.Finer (CC ds U' R'))
    (hj : ∀ f, ∀ y ∈ g'.table f, Just ds U' R' f y) : Inv ds g' U' R' :=
  ⟨k.wf, fun f => (k.decl f).trans (i.decl f),
    fun a b hab => (hU _ hab).elim (fun h => k.coarser.eq _ _ (i.unions a b h)) id,
    fun r hr => (hR r hr).elim (fun h => (i.pres r h).keeps i.wf k) id, hs, hj⟩

theorem Inv.of_merged {ds : Nat → Decl} {g g' : EG} {U R} (i : Inv ds g U R) (m : Merged g g')
    (hrt : ∀ x, g'.rt x = g.rt x) : Inv ds g' U R := by
  refine i.step m.keeps (fun _ => .inl) (fun _ => .inl) (fun x y hxy => i.sound x y ?_)
    (fun f y hy => i.just f y (m.table f ▸ hy))
  rw [← hrt, ← hrt]; exact hxy

theorem Inv.union {ds : Nat → Decl} {g : EG} {U R} (i : Inv ds g U R) (a b : Int) :
    Inv ds (g.union a b) ((a.toNat, b.toNat) :: U) R := by
  have mono : ∀ {x y}, CC ds U R x y → CC ds ((a.toNat, b.toNat) :: U) R x y :=
    CC.mono (fun _ => List.mem_cons_of_mem _) (fun _ => id)
  refine i.step (keeps_union i.wf a b) (fun p hp => ?_) (fun _ => .inl)
    (union_sound i.wf a b (CC.equivalence ..) (fun x y h => mono (i.sound x y h)) (.base List.mem_cons_self))
    (fun f y hy => (i.just f y (union_table .. ▸ hy)).mono (fun _ => List.mem_cons_of_mem _) (fun _ => id))
  rcases List.mem_cons.mp hp with rfl | hp
  · exact .inr (union_joins i.wf a b)
  · exact .inl hp

theorem Inv.setTable {ds : Nat → Decl} {g g1 : EG} {U R R'} (i : Inv ds g U R) (m : Merged g g1) {f : Nat}
    {rows : List Row} (himg : ∀ y ∈ g.table f, RowImg g1 (g.decl f) rows y) (hR : ∀ r, r ∈ R → r ∈ R')
    (hnew : ∀ r, r ∈ R' → r ∈ R ∨ HasImg (g1.setTable f rows) r.f r.args r.out)
    (hs : g1.Finer (CC ds U R')) (hj : ∀ y ∈ rows, Just ds U R' f y) :
    Inv ds (g1.setTable f rows) U R' :=
  i.step (m.keeps_setTable himg) (fun _ => .inl) hnew hs
    (m.forall_setTable (fun f' y hy => (i.just f' y hy).mono (fun _ => id) hR) hj)

/-! ### inserting a row -/

theorem Inv.insertRow {ds : Nat → Decl} {g : EG} {U R} (i : Inv ds g U R) (f : Nat) (r : Row)
    (hf : f < g.tables.size) : Inv ds (g.insertRow f r) U (⟨f, r.args, r.out⟩ :: R) := by
  have e := CC.equivalence ds U (⟨f, r.args, r.out⟩ :: R)
  have hR : ∀ r', r' ∈ R → r' ∈ (⟨f, r.args, r.out⟩ : IRow) :: R := fun _ => List.mem_cons_of_mem _
  obtain ⟨t1, t2⟩ := insertInto_just (i.decl f).symm i.wf (fun x y h => CC.mono (fun _ => id) hR (i.sound x y h))
    (List.forall_mem_cons.mpr ⟨fun _ => ⟨⟨f, r.args, r.out⟩, List.mem_cons_self, rfl, .refl e.refl _ _, e.refl _⟩,
      fun y hy => (i.just f y hy).mono (fun _ => id) hR⟩)
  refine i.setTable (insertInto_merged i.wf _ _ r)
    (fun y hy => insertInto_rowImg i.wf _ _ r y (List.mem_cons_of_mem _ hy)) hR (fun r' hr' => ?_) t1 t2
  rcases List.mem_cons.mp hr' with rfl | hr'
  · exact .inr (insertRow_rowImg i.wf hf r).hasImg
  · exact .inl hr'

/-- what `g.insertRow f r` adds to the history: the row, unless table `f` does not exist -/
def insRow (g : EG) (f : Nat) (r : Row) : List IRow :=
  if f < g.tables.size then [⟨f, r.args, r.out⟩] else []

theorem Inv.insertRow' {ds : Nat → Decl} {g : EG} {U R} (i : Inv ds g U R) (f : Nat) (r : Row) :
    Inv ds (g.insertRow f r) U (insRow g f r ++ R) := by
  unfold insRow
  split
  · rename_i hf; exact i.insertRow f r hf
  · rename_i hf; rw [insertRow_oob g (Nat.le_of_not_lt hf)]; exact i

/-! ### constructor call: look up or create -/

/-- what `g.lookupOrCreate f args` adds to the history: the row with the freshly minted id, if the key was absent -/
def createRow (g : EG) (f : Nat) (args : List Int) : List IRow :=
  match lookupRow (g.table f) args with
  | some _ => []
  | none => if f < g.tables.size then [⟨f, args, Int.ofNat g.parents.size⟩] else []

theorem Inv.lookupOrCreate {ds : Nat → Decl} {g : EG} {U R} (i : Inv ds g U R) (f : Nat) (args : List Int) :
    Inv ds (g.lookupOrCreate f args).1 U (createRow g f args ++ R) := by
  unfold EG.lookupOrCreate createRow
  cases lookupRow (g.table f) args with
  | some r => exact i
  | none =>
    -- `freshId` leaves the tables alone, so what `createRow` records is `insRow g.freshId.1 f _`
    dsimp only
    exact (i.of_merged (fresh_merged i.wf) (fresh_rt g)).insertRow' f _

/-! ### rebuild -/

/-- **Any partial rebuild pass preserves the history invariant** — whatever subset of the rows it
chooses to re-insert.  An incremental strategy can therefore never invent or lose an equality; the
only thing it can fail to do is reach a canonical database (which is decidable on the result). -/
theorem Inv.rebuildSome {ds : Nat → Decl} {g : EG} {U R} (i : Inv ds g U R) (f : Nat) (sel : Row → Bool) :
    Inv ds (EGraph.rebuildSome g f sel) U R := by
  obtain ⟨t1, t2⟩ := rbFold_sound (i.decl f).symm ((g.table f).filter sel)
    (g, (g.table f).filter fun r => !sel r) i.wf i.sound
    (fun y hy => i.just f y (List.mem_filter.mp hy).1) (fun y hy => i.just f y (List.mem_filter.mp hy).1)
  obtain ⟨m, img⟩ := rbFold_keeps (g.decl f) i.wf ((g.table f).filter sel) ((g.table f).filter fun r => !sel r)
  refine i.setTable m (fun y hy => img y ?_) (fun _ => id) (fun _ => .inl) t1 t2
  simp [hy]

theorem Inv.rebuildTable {ds : Nat → Decl} {g : EG} {U R} (i : Inv ds g U R) (f : Nat) :
    Inv ds (rebuildTable g f) U R :=
  rebuildTable_eq_some g f ▸ i.rebuildSome f _

theorem Inv.rebuildPass {ds : Nat → Decl} {g : EG} {U R} (i : Inv ds g U R) : Inv ds (EGraph.rebuildPass g) U R :=
  List.foldlRecOn _ EGraph.rebuildTable (motive := fun g => Inv ds g U R) i fun _ i f _ => i.rebuildTable f

theorem Inv.rebuild {ds : Nat → Decl} {U R} : ∀ (fuel : Nat) {g : EG}, Inv ds g U R → Inv ds (EGraph.rebuild fuel g).1 U R :=
  fun fuel g i => rebuild_induct (M := fun g => Inv ds g U R) (fun _ i => i.rebuildPass) fuel g i

end EgglogVerif.EGraph
