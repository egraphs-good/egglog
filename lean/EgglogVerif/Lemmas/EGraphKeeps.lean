import EgglogVerif.Lemmas.EGraph
/-
Every state-changing step other than `delete` keeps every stored row (`Keeps`): the row still has an
image (`RowImg`), and the partition only got coarser.  The history invariant (C01), the subsumption
invariant (C13) and well-formedness through every action (C04) are read off this.
-/
namespace EgglogVerif.EGraph

/-! ### images of rows -/

/-- `y` has an image among `rows`: a row with the same key and (constructor tables) the same output,
modulo the equalities of `g`, that carries the subsumed flag if `y` does -/
def RowImg (g : EG) (d : Decl) (rows : List Row) (y : Row) : Prop :=
  ∃ y' ∈ rows, canonArgs g d.argIsId y'.args = canonArgs g d.argIsId y.args ∧
    (d.merge = .unionId → g.rt y'.out.toNat = g.rt y.out.toNat) ∧ (y.sub = true → y'.sub = true)

theorem RowImg.self {g : EG} {d : Decl} {rows : List Row} {y : Row} (hy : y ∈ rows) : RowImg g d rows y :=
  ⟨y, hy, rfl, fun _ => rfl, id⟩

theorem RowImg.trans {g g' : EG} (h : g.WF) (h' : g'.WF) (c : Coarser g g') {d : Decl} {rows rows' : List Row} {y : Row}
    (hi : RowImg g d rows y) (hrows : ∀ y' ∈ rows, RowImg g' d rows' y') : RowImg g' d rows' y := by
  obtain ⟨y1, hy1, a1, o1, s1⟩ := hi
  obtain ⟨y2, hy2, a2, o2, s2⟩ := hrows y1 hy1
  exact ⟨y2, hy2, a2.trans (canonArgs_eq_coarser h h' c a1), fun hm => (o2 hm).trans (c.eq _ _ (o1 hm)),
    fun hs => s2 (s1 hs)⟩

theorem RowImg.of_canonRow {g g' : EG} (h : g.WF) (h' : g'.WF) (c : Coarser g g') {d : Decl} {rows : List Row} {y : Row}
    (hi : RowImg g' d rows (g.canonRow d y)) : RowImg g' d rows y := by
  obtain ⟨y1, hy1, a1, o1, s1⟩ := hi
  exact ⟨y1, hy1, a1.trans (canonArgs_coarser h h' c _ _),
    fun hm => (o1 hm).trans (c.eq _ _ (canonRow_out_rt h d y)), s1⟩

theorem insertInto_rowImg {g : EG} (h : g.WF) (d : Decl) (rows : List Row) (r : Row) :
    ∀ y ∈ r :: rows, RowImg (insertInto g d rows r).1 d (insertInto g d rows r).2 y := by
  intro y hy
  obtain ⟨y', hy', a, o, s⟩ := insertInto_img g d rows r y hy
  exact ⟨y', hy', by rw [a], o h, s⟩

/-! ### rebuild: the fold of a pass over one table, the loop -/

/-- the step of the fold in `rebuildTable` (`rebuildTable_eq`) -/
def rbStep (d : Decl) (acc : EG × List Row) (r : Row) : EG × List Row :=
  insertInto acc.1 d acc.2 (acc.1.canonRow d r)

theorem rbFold_keeps (d : Decl) {g : EG} (h : g.WF) (todo keep : List Row) :
    Merged g (todo.foldl (rbStep d) (g, keep)).1 ∧
    ∀ y ∈ keep ++ todo, RowImg (todo.foldl (rbStep d) (g, keep)).1 d (todo.foldl (rbStep d) (g, keep)).2 y := by
  refine foldl_invariant (rbStep d)
    (fun done acc => Merged g acc.1 ∧ ∀ y ∈ keep ++ done, RowImg acc.1 d acc.2 y)
    ⟨.refl h, fun y hy => .self (by simpa using hy)⟩ (fun done acc r ih => ?_) todo
  obtain ⟨m, img⟩ := ih
  have m' := insertInto_merged m.wf d acc.2 (acc.1.canonRow d r)
  have img' := insertInto_rowImg m.wf d acc.2 (acc.1.canonRow d r)
  refine ⟨m.trans m', fun y hy => ?_⟩
  rw [← List.append_assoc, List.mem_append, List.mem_singleton] at hy
  rcases hy with hy | rfl
  · exact (img y hy).trans m.wf m'.wf m'.coarser fun y' hy' => img' y' (List.mem_cons_of_mem _ hy')
  · exact .of_canonRow m.wf m'.wf m'.coarser (img' _ List.mem_cons_self)

theorem rebuildTable_eq (g : EG) (f : Nat) :
    rebuildTable g f = (((g.table f).foldl (rbStep (g.decl f)) (g, [])).1.setTable f ((g.table f).foldl (rbStep (g.decl f)) (g, [])).2) := rfl

/-- re-canonicalise and re-insert only the rows selected by `sel` (what an index-driven, incremental
rebuild does: `sel` = "mentions a displaced id"), leaving the other rows where they are -/
def rebuildSome (g : EG) (f : Nat) (sel : Row → Bool) : EG :=
  let res := ((g.table f).filter sel).foldl (rbStep (g.decl f)) (g, (g.table f).filter (fun r => !sel r))
  res.1.setTable f res.2

theorem rebuildTable_eq_some (g : EG) (f : Nat) : rebuildTable g f = rebuildSome g f (fun _ => true) := by
  have h1 : (g.table f).filter (fun _ => true) = g.table f := List.filter_eq_self.mpr fun _ _ => rfl
  have h2 : (g.table f).filter (fun _ => !true) = [] := List.filter_eq_nil_iff.mpr fun _ _ => nofun
  unfold rebuildSome
  rw [h1, h2]
  rfl

theorem rebuild_induct {M : EG → Prop} (pass : ∀ g, M g → M (rebuildPass g)) :
    ∀ (fuel : Nat) (g : EG), M g → M (rebuild fuel g).1 := by
  intro fuel g h
  fun_induction rebuild fuel g with
  | case1 g => exact h
  | case2 fuel g g' _ => exact pass g h
  | case3 fuel g g' _ ih => exact ih (pass g h)

/-! ### steps that keep every stored row -/

/-- every stored row of `g` has an image in `g'`, whose partition is coarser; same declarations -/
structure Keeps (g g' : EG) : Prop where
  wf : g'.WF
  coarser : Coarser g g'
  decls : g'.decls = g.decls
  size : g'.tables.size = g.tables.size
  img : ∀ f, ∀ y ∈ g.table f, RowImg g' (g.decl f) (g'.table f) y

theorem Keeps.decl {g g' : EG} (k : Keeps g g') (f : Nat) : g'.decl f = g.decl f := by
  unfold EG.decl; rw [k.decls]

theorem Merged.keeps {g g' : EG} (m : Merged g g') : Keeps g g' :=
  ⟨m.wf, m.coarser, m.decls, by rw [m.tables], fun f y hy => .self (m.table f ▸ hy)⟩

theorem Keeps.refl {g : EG} (h : g.WF) : Keeps g g := (Merged.refl h).keeps

theorem Keeps.trans {a b c : EG} (k1 : Keeps a b) (k2 : Keeps b c) : Keeps a c :=
  ⟨k2.wf, k1.coarser.trans k2.coarser, k2.decls.trans k1.decls, k2.size.trans k1.size, fun f y hy =>
    (k1.img f y hy).trans k1.wf k2.wf k2.coarser fun y' hy' => k1.decl f ▸ k2.img f y' hy'⟩

theorem Keeps.rowImg {g g' : EG} (h : g.WF) (k : Keeps g g') {f : Nat} {y : Row}
    (hi : RowImg g (g.decl f) (g.table f) y) : RowImg g' (g'.decl f) (g'.table f) y :=
  k.decl f ▸ hi.trans h k.wf k.coarser (k.img f)

theorem Merged.keeps_setTable {g g1 : EG} (m : Merged g g1) {f : Nat} {rows : List Row}
    (himg : ∀ y ∈ g.table f, RowImg g1 (g.decl f) rows y) : Keeps g (g1.setTable f rows) := by
  refine ⟨m.wf, m.coarser.trans (.of_rt_eq m.wf (setTable_rt g1 f rows)), m.decls, by rw [setTable_size, m.tables],
    fun f' y hy => ?_⟩
  rw [setTable_table]
  split
  · rename_i he
    obtain ⟨rfl, -⟩ := he
    show RowImg g1 (g.decl f') rows y
    exact himg y hy
  · exact .self (m.table f' ▸ hy)

theorem Merged.forall_setTable {g g1 : EG} (m : Merged g g1) {f : Nat} {rows : List Row} {J : Nat → Row → Prop}
    (hold : ∀ f', ∀ y ∈ g.table f', J f' y) (hnew : ∀ y ∈ rows, J f y) :
    ∀ f', ∀ y ∈ (g1.setTable f rows).table f', J f' y := by
  intro f' y hy
  rw [setTable_table] at hy
  split at hy
  · rename_i he; exact he.1 ▸ hnew y hy
  · exact hold f' y (m.table f' ▸ hy)

theorem keeps_union {g : EG} (h : g.WF) (a b : Int) : Keeps g (g.union a b) := (union_merged h a b).keeps

theorem keeps_insertRow {g : EG} (h : g.WF) (f : Nat) (r : Row) : Keeps g (g.insertRow f r) :=
  (insertInto_merged h _ _ r).keeps_setTable fun y hy => insertInto_rowImg h _ _ r y (List.mem_cons_of_mem _ hy)

theorem insertRow_rowImg {g : EG} (h : g.WF) {f : Nat} (hf : f < g.tables.size) (r : Row) :
    RowImg (g.insertRow f r) ((g.insertRow f r).decl f) ((g.insertRow f r).table f) r := by
  have key : ∀ res : EG × List Row, Merged g res.1 → RowImg res.1 (g.decl f) res.2 r →
      RowImg (res.1.setTable f res.2) ((res.1.setTable f res.2).decl f) ((res.1.setTable f res.2).table f) r := by
    intro res m hi
    rw [setTable_table, if_pos ⟨rfl, m.tables ▸ hf⟩, setTable_decl, m.decl]
    exact hi
  exact key _ (insertInto_merged h _ _ r) (insertInto_rowImg h _ _ r r List.mem_cons_self)

theorem keeps_rebuildSome {g : EG} (h : g.WF) (f : Nat) (sel : Row → Bool) : Keeps g (rebuildSome g f sel) := by
  obtain ⟨m, img⟩ := rbFold_keeps (g.decl f) h ((g.table f).filter sel) ((g.table f).filter fun r => !sel r)
  refine m.keeps_setTable fun y hy => img y ?_
  simp [hy]

theorem keeps_rebuildTable {g : EG} (h : g.WF) (f : Nat) : Keeps g (rebuildTable g f) :=
  rebuildTable_eq_some g f ▸ keeps_rebuildSome h f _

theorem keeps_rebuildPass {g : EG} (h : g.WF) : Keeps g (rebuildPass g) :=
  List.foldlRecOn _ rebuildTable (motive := Keeps g) (.refl h) fun _ k f _ => k.trans (keeps_rebuildTable k.wf f)

theorem keeps_rebuild {g : EG} (h : g.WF) (fuel : Nat) : Keeps g (rebuild fuel g).1 :=
  rebuild_induct (M := Keeps g) (fun _ k => k.trans (keeps_rebuildPass k.wf)) fuel g (.refl h)

theorem keeps_lookupOrCreate {g : EG} (h : g.WF) (f : Nat) (args : List Int) : Keeps g (g.lookupOrCreate f args).1 := by
  unfold EG.lookupOrCreate
  split
  · exact .refl h
  · dsimp only
    exact (fresh_merged h).keeps.trans (keeps_insertRow (fresh_merged h).wf f _)

end EgglogVerif.EGraph
