import EgglogVerif.Model.Schedule
/-
C10 — Schedules mean what they say: run, repeat, saturate, seq, until.

Everything is proved for an ARBITRARY ruleset step function and `:until` test, hence for every
program, and for every schedule expression.
-/
namespace EgglogVerif.Schedule

variable {R U DB : Type} {step : R → DB → DB × Bool} {holds : U → DB → Bool}

namespace Rep

/-- `Eval.runStep`, `repStop` and `satStop` conclude with `Rep.dflt.union r`, not `r`: `run_rules` and
the loops of `run_schedule` start from `RunReport::default()` and fold each sub-report in by
`report.union(rec)`.  This `simp` lemma removes the `dflt` wherever one of those rules is applied. -/
@[simp] theorem dflt_union (r : Rep) : Rep.dflt.union r = r := by
  cases r; simp [Rep.union, Rep.dflt]

@[simp] theorem union_dflt (r : Rep) : r.union Rep.dflt = r := by
  cases r; simp [Rep.union, Rep.dflt]

theorem union_assoc (a b c : Rep) : (a.union b).union c = a.union (b.union c) := by
  cases a; cases b; cases c; simp [Rep.union, Bool.or_assoc, Bool.and_assoc, Nat.add_assoc]

@[simp] theorem union_updated (a b : Rep) : (a.union b).updated = (a.updated || b.updated) := rfl
@[simp] theorem union_canStop (a b : Rep) : (a.union b).canStop = (a.canStop && b.canStop) := rfl
@[simp] theorem single_updated (c : Bool) : (Rep.single c).updated = c := rfl
@[simp] theorem single_canStop (c : Bool) : (Rep.single c).canStop = !c := rfl
@[simp] theorem dflt_updated : Rep.dflt.updated = false := rfl
@[simp] theorem dflt_canStop : Rep.dflt.canStop = true := rfl

end Rep

theorem Eval.det {s : Sched R U} {db d1 d2 : DB} {r1 r2 : Rep}
    (h1 : Eval step holds s db d1 r1) (h2 : Eval step holds s db d2 r2) : d1 = d2 ∧ r1 = r2 := by
  induction h1 generalizing d2 r2 with
  | runUntil hu =>
    cases h2 with
    | runUntil _ => exact ⟨rfl, rfl⟩
    | runStep hn => cases hu.symm.trans (hn _ rfl)
  | runStep hn =>
    cases h2 with
    | runUntil hu => cases hu.symm.trans (hn _ rfl)
    | runStep _ => exact ⟨rfl, rfl⟩
  | rep0 => cases h2; exact ⟨rfl, rfl⟩
  | repStop _ hc ih =>
    cases h2 with
    | repStop e2 _ => obtain ⟨rfl, rfl⟩ := ih e2; exact ⟨rfl, rfl⟩
    | repCont e2 hc2 _ => obtain ⟨rfl, rfl⟩ := ih e2; cases hc.symm.trans hc2
  | repCont _ hc _ ih1 ih2 =>
    cases h2 with
    | repStop e2 hc2 => obtain ⟨rfl, rfl⟩ := ih1 e2; cases hc.symm.trans hc2
    | repCont e2 _ e3 => obtain ⟨rfl, rfl⟩ := ih1 e2; obtain ⟨rfl, rfl⟩ := ih2 e3; exact ⟨rfl, rfl⟩
  | satStop _ hc ih =>
    cases h2 with
    | satStop e2 _ => obtain ⟨rfl, rfl⟩ := ih e2; exact ⟨rfl, rfl⟩
    | satCont e2 hc2 _ => obtain ⟨rfl, rfl⟩ := ih e2; cases hc.symm.trans hc2
  | satCont _ hc _ ih1 ih2 =>
    cases h2 with
    | satStop e2 hc2 => obtain ⟨rfl, rfl⟩ := ih1 e2; cases hc.symm.trans hc2
    | satCont e2 _ e3 => obtain ⟨rfl, rfl⟩ := ih1 e2; obtain ⟨rfl, rfl⟩ := ih2 e3; exact ⟨rfl, rfl⟩
  | seqNil => cases h2; exact ⟨rfl, rfl⟩
  | seqCons _ _ ih1 ih2 =>
    cases h2 with
    | seqCons e2 e3 => obtain ⟨rfl, rfl⟩ := ih1 e2; obtain ⟨rfl, rfl⟩ := ih2 e3; exact ⟨rfl, rfl⟩

/-! ## `(run R n [:until u])` -/

def untilHolds (holds : U → DB → Bool) : Option U → DB → Bool
  | some x, db => holds x db
  | none, _ => false

theorem eval_run_held {r : R} {u : Option U} {db : DB} (hu : untilHolds holds u db = true) :
    Eval step holds (.run r u) db db Rep.dflt := by
  cases u with
  | none => cases hu
  | some x => exact Eval.runUntil hu

theorem eval_run_step {r : R} {u : Option U} {db d : DB} {ch : Bool} (hu : untilHolds holds u db = false)
    (hs : step r db = (d, ch)) : Eval step holds (.run r u) db d (Rep.single ch) := by
  have := Eval.runStep (step := step) (r := r) (u := u) (db := db) (fun x hx => by subst hx; exact hu)
  rwa [hs, Rep.dflt_union] at this

/-- n successive single iterations of `r`, stopping before an iteration when `:until` holds and
after an iteration that changed nothing -/
def iterRun (step : R → DB → DB × Bool) (holds : U → DB → Bool) (r : R) (u : Option U) :
    Nat → DB → DB × Rep
  | 0, db => (db, Rep.dflt)
  | n + 1, db =>
    if untilHolds holds u db then (db, Rep.dflt)
    else
      let p := step r db
      if p.2 then
        let q := iterRun step holds r u n p.1
        (q.1, (Rep.single p.2).union q.2)
      else (p.1, Rep.single p.2)

/-- **`(run R n)`** (= `Repeat(n, Run R)`) is exactly `iterRun`. -/
theorem C10_run (r : R) (u : Option U) : ∀ (n : Nat) (db : DB),
    Eval step holds (.rep n (.run r u)) db (iterRun step holds r u n db).1 (iterRun step holds r u n db).2 := by
  intro n db
  fun_induction iterRun step holds r u n db with
  | case1 db => exact Eval.rep0
  | case2 n db hu => exact Eval.repStop (eval_run_held hu) rfl
  | case3 n db hu p hc q ih =>
    exact Eval.repCont (eval_run_step (Bool.eq_false_iff.mpr hu) rfl) (by simp [hc]) ih
  | case4 n db hu p hc =>
    rw [← Rep.dflt_union (Rep.single _)]
    exact Eval.repStop (eval_run_step (Bool.eq_false_iff.mpr hu) rfl) (by simpa using hc)

/-- `:until` stops BEFORE the first iteration at which the facts already hold. -/
theorem C10_until (r : R) (u : U) (n : Nat) (db db' : DB) (rp : Rep)
    (h : Eval step holds (.rep n (.run r (some u))) db db' rp) (hu : holds u db = true) :
    db' = db ∧ rp.iters = 0 := by
  obtain ⟨rfl, rfl⟩ := (C10_run (step := step) (holds := holds) r (some u) n db).det h
  cases n <;> simp [iterRun, untilHolds, hu, Rep.dflt]

/-! ## `seq` -/

theorem eval_seqNil_iff {db d : DB} {r : Rep} :
    Eval step holds (.seqNil : Sched R U) db d r ↔ d = db ∧ r = Rep.dflt := by
  constructor
  · intro h; cases h; exact ⟨rfl, rfl⟩
  · rintro ⟨rfl, rfl⟩; exact Eval.seqNil

theorem eval_seqCons_iff {s rest : Sched R U} {db d : DB} {r : Rep} :
    Eval step holds (.seqCons s rest) db d r ↔
      ∃ d1 r1 r2, Eval step holds s db d1 r1 ∧ Eval step holds rest d1 d r2 ∧ r = r1.union r2 := by
  constructor
  · intro h; cases h with
    | seqCons e1 e2 => exact ⟨_, _, _, e1, e2, rfl⟩
  · rintro ⟨d1, r1, r2, e1, e2, rfl⟩; exact Eval.seqCons e1 e2

theorem eval_seq1_iff {c : Sched R U} {db d : DB} {r : Rep} :
    Eval step holds (.seqCons c .seqNil) db d r ↔ Eval step holds c db d r := by
  simp only [eval_seqCons_iff, eval_seqNil_iff]
  constructor
  · rintro ⟨_, _, _, e, ⟨rfl, rfl⟩, rfl⟩; simpa using e
  · intro e; exact ⟨d, r, _, e, ⟨rfl, rfl⟩, by simp⟩

theorem eval_seq_flatten {a b y : Sched R U} {db d : DB} {r : Rep} :
    Eval step holds (.seqCons (.seqCons a (.seqCons b .seqNil)) y) db d r ↔
      Eval step holds (.seqCons a (.seqCons b y)) db d r := by
  constructor
  · intro h
    obtain ⟨d2, _, ry, hab, hy, rfl⟩ := eval_seqCons_iff.mp h
    obtain ⟨d1, ra, rb, ha, hb, rfl⟩ := eval_seqCons_iff.mp hab
    rw [Rep.union_assoc]
    exact Eval.seqCons ha (Eval.seqCons (eval_seq1_iff.mp hb) hy)
  · intro h
    obtain ⟨d1, ra, _, ha, hby, rfl⟩ := eval_seqCons_iff.mp h
    obtain ⟨d2, rb, ry, hb, hy, rfl⟩ := eval_seqCons_iff.mp hby
    rw [← Rep.union_assoc]
    exact Eval.seqCons (Eval.seqCons ha (eval_seq1_iff.mpr hb)) hy

/-- **seq associativity**: `(seq (seq a b) c)`, `(seq a (seq b c))` and `(seq a b c)` give the same
database and the same report. -/
theorem C10_seqAssoc (a b c : Sched R U) (db d : DB) (r : Rep) :
    (Eval step holds (.seqCons (.seqCons a (.seqCons b .seqNil)) (.seqCons c .seqNil)) db d r ↔
      Eval step holds (.seqCons a (.seqCons b (.seqCons c .seqNil))) db d r) ∧
    (Eval step holds (.seqCons a (.seqCons (.seqCons b (.seqCons c .seqNil)) .seqNil)) db d r ↔
      Eval step holds (.seqCons a (.seqCons b (.seqCons c .seqNil))) db d r) := by
  refine ⟨eval_seq_flatten, ?_⟩
  -- the inner `seq` is the whole tail of the outer one
  rw [eval_seqCons_iff, eval_seqCons_iff (s := a)]
  simp only [eval_seq1_iff]

/-! ## `saturate` and fixpoints

From here on the step function is assumed to report `changed = false` only when it left the
database as it was (true of `step_rules` for programs without deletions: `changed` is set by
every added or rewritten row and every union). -/

def StepHonest (step : R → DB → DB × Bool) : Prop := ∀ r db, (step r db).2 = false → (step r db).1 = db

/-- in every report of a run the two flags say the same thing: `dflt` and `single` are built that
way and `union` keeps it -/
theorem canStop_eq_not_updated {s : Sched R U} {db d : DB} {r : Rep} (h : Eval step holds s db d r) :
    r.canStop = !r.updated := by
  have union {a b : Rep} (ha : a.canStop = !a.updated) (hb : b.canStop = !b.updated) :
      (a.union b).canStop = !(a.union b).updated := by
    simp [ha, hb]
  induction h with
  | runUntil _ | rep0 | seqNil => rfl
  | runStep _ => exact union rfl rfl
  | repStop _ _ ih | satStop _ _ ih => exact union rfl ih
  | repCont _ _ _ ih1 ih2 | satCont _ _ _ ih1 ih2 | seqCons _ _ ih1 ih2 => exact union ih1 ih2

theorem noUpdate_id (hH : StepHonest step) {s : Sched R U} {db d : DB} {r : Rep}
    (h : Eval step holds s db d r) : r.updated = false → d = db := by
  induction h with
  | runUntil _ | rep0 | seqNil => exact fun _ => rfl
  | runStep _ => rw [Rep.dflt_union]; exact hH _ _
  | repStop _ _ ih | satStop _ _ ih => rw [Rep.dflt_union]; exact ih
  | repCont _ _ _ ih1 ih2 | satCont _ _ _ ih1 ih2 | seqCons _ _ ih1 ih2 =>
    intro h; simp only [Rep.union_updated, Bool.or_eq_false_iff] at h
    rw [ih2 h.2, ih1 h.1]

theorem canStop_id (hH : StepHonest step) {s : Sched R U} {db d : DB} {r : Rep}
    (h : Eval step holds s db d r) (hc : r.canStop = true) : d = db :=
  noUpdate_id hH h (by simpa [canStop_eq_not_updated h] using hc)

/-- **`(saturate s)`**: when it terminates, the last execution of `s` changed nothing, the result
is a fixpoint of `s`, and saturating again is the identity (idempotence). -/
theorem C10_saturateFix (hH : StepHonest step) {s : Sched R U} {db d : DB} {r : Rep}
    (h : Eval step holds (.sat s) db d r) :
    ∃ r', Eval step holds s d d r' ∧ r'.updated = false ∧ Eval step holds (.sat s) d d r' := by
  generalize hs : Sched.sat s = t at h
  induction h with
  | satStop e hu _ =>
    cases hs
    cases noUpdate_id hH e hu
    exact ⟨_, e, hu, by simpa using Eval.satStop e hu⟩
  | satCont _ _ _ _ ih2 => exact ih2 hs
  | _ => cases hs

/-! ## `repeat a (repeat b s)` = `repeat (a*b) s` -/

theorem rep_idle {s : Sched R U} {db : DB} {r : Rep} (e : Eval step holds s db db r) (hc : r.canStop = true)
    (k : Nat) : ∃ r', Eval step holds (.rep k s) db db r' := by
  cases k with
  | zero => exact ⟨_, Eval.rep0⟩
  | succ k => exact ⟨_, Eval.repStop e hc⟩

/-- where `s` reports `can_stop` and the loop is left, `s` was idle, so the rest of the loop would have changed
nothing either -/
theorem rep_succ_iff (hH : StepHonest step) {s : Sched R U} {n : Nat} {db d : DB} :
    (∃ r, Eval step holds (.rep (n + 1) s) db d r) ↔
      ∃ d1, (∃ r1, Eval step holds s db d1 r1) ∧ ∃ r2, Eval step holds (.rep n s) d1 d r2 := by
  constructor
  · rintro ⟨r, h⟩
    cases h with
    | repStop e hc => cases canStop_id hH e hc; exact ⟨_, ⟨_, e⟩, rep_idle e hc n⟩
    | repCont e _ e2 => exact ⟨_, ⟨_, e⟩, _, e2⟩
  · rintro ⟨d1, ⟨r1, e⟩, r2, e2⟩
    cases hc : r1.canStop
    · exact ⟨_, Eval.repCont e hc e2⟩
    · cases canStop_id hH e hc
      obtain ⟨r', e'⟩ := rep_idle e hc n
      cases (e'.det e2).1
      exact ⟨_, Eval.repStop e hc⟩

theorem rep_zero_iff {s : Sched R U} {db d : DB} : (∃ r, Eval step holds (.rep 0 s) db d r) ↔ d = db :=
  ⟨fun ⟨_, h⟩ => by cases h; rfl, fun h => h ▸ ⟨_, Eval.rep0⟩⟩

theorem rep_add_iff (hH : StepHonest step) {s : Sched R U} (m n : Nat) {db d : DB} :
    (∃ r, Eval step holds (.rep (m + n) s) db d r) ↔
      ∃ d1, (∃ r1, Eval step holds (.rep m s) db d1 r1) ∧ ∃ r2, Eval step holds (.rep n s) d1 d r2 := by
  induction m generalizing db with
  | zero => simp [rep_zero_iff]
  | succ m ih =>
    rw [Nat.succ_add]
    simp only [rep_succ_iff hH, ih]
    constructor
    · rintro ⟨d0, h0, d1, h1, h2⟩; exact ⟨d1, ⟨d0, h0, h1⟩, h2⟩
    · rintro ⟨d1, ⟨d0, h0, h1⟩, h2⟩; exact ⟨d0, h0, d1, h1, h2⟩

/-- **`repeat a (repeat b s)` and `repeat (a*b) s` produce the same database** (each terminates
iff the other does). -/
theorem C10_repeatRepeat (hH : StepHonest step) (s : Sched R U) (b : Nat) : ∀ (a : Nat) (db d : DB),
    (∃ r, Eval step holds (.rep a (.rep b s)) db d r) ↔ (∃ r, Eval step holds (.rep (a * b) s) db d r) := by
  intro a
  induction a with
  | zero => intro db d; rw [Nat.zero_mul, rep_zero_iff, rep_zero_iff]
  | succ a ih =>
    intro db d
    rw [Nat.succ_mul, Nat.add_comm (a * b) b, rep_succ_iff hH, rep_add_iff hH]
    simp only [ih]

/-! ## combined rulesets -/

/-- a combined ruleset runs exactly the rules that its sub-rulesets hold WHEN IT IS RUN -/
theorem C10_combined {Rule : Type} (env : List (RS Rule)) (f i : Nat) (subs : List Nat)
    (h : env[i]? = some (.combined subs)) :
    collect env (f + 1) i = subs.flatMap (collect env f) := by
  rw [collect, h]

theorem C10_combined_plain {Rule : Type} (env : List (RS Rule)) (f i : Nat) (l : List Rule)
    (h : env[i]? = some (.rules l)) : collect env (f + 1) i = l := by
  rw [collect, h]

/-! ## the executable interpreter -/

/-- the executable schedule interpreter only produces results the relational semantics allows -/
theorem exec_sound : ∀ (f : Nat) (s : Sched R U) (db db' : DB) (r : Rep),
    exec step holds f s db = some (db', r) → Eval step holds s db db' r := by
  intro f s db
  fun_induction exec step holds f s db <;> intro db' r h <;> cases h
  -- the branches of `exec` that return `some`, in the order of its definition
  next hu => exact Eval.runUntil hu
  next hu _ _ hs => exact eval_run_step (Bool.eq_false_iff.mpr hu) hs
  next hs => exact eval_run_step rfl hs
  next => exact Eval.rep0
  next h1 hc ih => exact Eval.repStop (ih _ _ h1) hc
  next h1 hc _ _ h2 ih1 ih2 => exact Eval.repCont (ih1 _ _ h1) (by simpa using hc) (ih2 _ _ h2)
  next h1 hu ih => exact Eval.satStop (ih _ _ h1) (by simpa using hu)
  next h1 hu _ _ h2 ih1 ih2 => exact Eval.satCont (ih1 _ _ h1) (by simpa using hu) (ih2 _ _ h2)
  next => exact Eval.seqNil
  next h1 _ _ h2 ih1 ih2 => exact Eval.seqCons (ih1 _ _ h1) (ih2 _ _ h2)

/-- non-vacuity: a concrete step function (a counter saturating at 3) -/
example : ∃ r, Eval (R := Unit) (U := Unit) (fun _ (n : Nat) => if n < 3 then (n + 1, true) else (n, false))
    (fun _ _ => false) (.sat (.run () none)) 0 3 r :=
  ⟨⟨true, false, 4⟩, exec_sound 20 _ 0 3 _ rfl⟩

end EgglogVerif.Schedule
