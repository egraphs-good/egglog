import EgglogVerif.Lemmas.Sexp
/-
C15 — Printing and re-parsing is the identity (lexical core).

* `C15_string`: EVERY string (all code points: quotes, backslashes, newlines, tabs, unicode) printed by
  the `Literal::String` printer lexes back to itself, whatever follows; `C15_string_token`: as one
  `str` token of `lexAll`.
* `C15_tree`: EVERY s-expression tree, flattened to tokens, is read back as the same tree.
* `C15_text`: EVERY token sequence (parentheses, string literals, atoms free of delimiters) printed
  with single spaces lexes back to itself — with `C15_tree`, the round trip at the level of text.
* `C15_escape_needed`: the un-escaped printing of the pinned commit (defect 5) does not round-trip.
-/
namespace EgglogVerif.Sexp

theorem lexString_escape (s rest acc : List Char) :
    lexString (escape s ++ '"' :: rest) false acc = some (acc.reverse ++ s, rest) := by
  fun_induction escape s generalizing acc <;> simp [lexString, *]

/-- **String literals round-trip**, for every string and every continuation of the input. -/
theorem C15_string (s rest : List Char) :
    lexString (escape s ++ '"' :: rest) false [] = some (s, rest) :=
  lexString_escape s rest []

theorem nextTok_printString (s r : List Char) : nextTok (printString s ++ r) = some (some (.str s, r)) := by
  have hp : printString s ++ r = '"' :: (escape s ++ '"' :: r) := by simp [printString]
  rw [hp, nextTok, skipWs_cons _ (by decide) (by decide)]
  simp [C15_string]

/-- at the token level: a printed string literal is lexed as one `str` token carrying the
original string, and lexing continues right after the closing quote -/
theorem C15_string_token (fuel : Nat) (s rest : List Char) :
    lexAll (fuel + 1) (printString s ++ rest) = (lexAll fuel rest).map (Tok.str s :: ·) := by
  rw [lexAll, nextTok_printString]

/-- the printing of the pinned commit (`write!(f, "(panic \"{msg}\")")`, no escaping) loses a
message that contains a quote: defect 5, by witness -/
theorem C15_escape_needed :
    lexString ("a\"b".toList ++ '"' :: []) false [] ≠ some ("a\"b".toList, []) := by
  -- the kernel evaluates `"…".toList` only by running the UTF-8 decoder, at a cost linear in the literal;
  -- `String.toList_ofList` reads the characters off the literal instead
  rw [String.toList_ofList]; decide +kernel

/-! ### trees -/

/-- no expression starts with `)`: that is how the reader's list loop tells an item from the end -/
theorem parseSx_item (f : Nat) (e : Sx) (ts : List Tok) :
    parseSx (f + 1) true (e.flatten ++ ts) =
      match parseSx f false (e.flatten ++ ts) with
      | some (.inl h, rest') =>
        match parseSx f true rest' with
        | some (.inr tl, rest'') => some (.inr (.cons h tl), rest'')
        | _ => none
      | _ => none := by
  cases e <;> rfl

theorem parse_flatten (fuel : Nat) :
    (∀ (e : Sx) (rest : List Tok), e.size ≤ fuel → parseSx fuel false (e.flatten ++ rest) = some (.inl e, rest)) ∧
    (∀ (l : SxL) (rest : List Tok), l.size ≤ fuel →
      parseSx fuel true (l.flatten ++ Tok.close :: rest) = some (.inr l, rest)) := by
  induction fuel with
  | zero => exact ⟨fun e _ h => by cases e <;> exact absurd h (Nat.not_succ_le_zero _),
      fun l _ h => by cases l <;> exact absurd h (Nat.not_succ_le_zero _)⟩
  | succ f ih =>
    refine ⟨fun e rest h => ?_, fun l rest h => ?_⟩
    · cases e with
      | str s => rfl
      | other s => rfl
      | list l =>
        have h : l.size ≤ f := Nat.le_of_succ_le (Nat.le_of_succ_le_succ h)
        simp [Sx.flatten, parseSx, List.append_assoc, ih.2 l rest h]
    · cases l with
      | nil => rfl
      | cons hd tl =>
        have h : hd.size + tl.size ≤ f := Nat.le_of_succ_le_succ h
        rw [SxL.flatten, List.append_assoc, parseSx_item, ih.1 hd _ (Nat.le_trans (Nat.le_add_right _ _) h)]
        simp only [ih.2 tl rest (Nat.le_trans (Nat.le_add_left _ _) h)]

theorem parse_flatten_sxl : ∀ (l : SxL) (rest : List Tok) (fuel : Nat), l.size ≤ fuel →
    parseSx fuel true (l.flatten ++ Tok.close :: rest) = some (.inr l, rest) :=
  fun l rest fuel h => (parse_flatten fuel).2 l rest h

/-- **Every tree reads back as itself** from its token stream (any nesting, any width), and the
reader stops exactly at the end of the expression. -/
theorem C15_tree (e : Sx) (rest : List Tok) :
    parseSx e.size false (e.flatten ++ rest) = some (.inl e, rest) :=
  (parse_flatten e.size).1 e rest (Nat.le_refl _)

/-- non-vacuity / end-to-end example through the character-level lexer -/
example :
    (lexAll 50 "(rule ((P x)) ((panic \"say \\\"hi\\\" \\\\ there\"))) ; c".toList).bind
      (fun toks => (parseSx 50 false toks).map (·.2)) = some [] := by
  rw [String.toList_ofList]; decide +kernel

/-! ### text level: printed token streams lex back to themselves -/

/-- an atom (symbol, number, keyword …) as the printer emits it: non-empty, no delimiter inside,
not starting with a double quote -/
def SafeAtom (s : List Char) : Prop := s ≠ [] ∧ s.head? ≠ some '"' ∧ ∀ c ∈ s, isDelim c = false

def renderTok : Tok → List Char
  | .open => ['(']
  | .close => [')']
  | .str s => printString s
  | .other s => s

/-- the printer's output shape: tokens separated by single spaces -/
def renderToks : List Tok → List Char
  | [] => []
  | t :: ts => renderTok t ++ ' ' :: renderToks ts

def SafeTok : Tok → Prop
  | .other s => SafeAtom s
  | _ => True

theorem nextTok_atom {s : List Char} (h : SafeAtom s) {d : Char} (hd : isDelim d = true) (r : List Char) :
    nextTok (s ++ d :: r) = some (some (.other s, d :: r)) := by
  obtain ⟨hne, hq, hall⟩ := h
  obtain ⟨c, cs, rfl⟩ := List.exists_cons_of_ne_nil hne
  have hc := hall c List.mem_cons_self
  unfold isDelim at hc
  simp only [Bool.or_eq_false_iff, decide_eq_false_iff_not] at hc
  obtain ⟨⟨⟨hw, hs⟩, ho⟩, hcl⟩ := hc
  have hcq : c ≠ '"' := fun e => hq (by rw [e]; rfl)
  unfold nextTok
  rw [List.cons_append, skipWs_cons _ hw hs]
  simp only [ho, hcl, hcq, if_false, lexOther_atom cs [c] r (fun x hx => hall x (List.mem_cons_of_mem _ hx)) hd]
  rfl

theorem nextTok_render {t : Tok} (h : SafeTok t) {d : Char} (hd : isDelim d = true) (rest : List Char) :
    nextTok (renderTok t ++ d :: rest) = some (some (t, d :: rest)) := by
  cases t with
  | «open» => exact nextTok_open _
  | close => exact nextTok_close _
  | str s => exact nextTok_printString s _
  | other s => exact nextTok_atom h hd rest

/-- **Printed token streams lex back to themselves**: for every sequence of tokens — parentheses,
string literals with ANY content, atoms without delimiters — the text the printer emits (tokens
separated by spaces) is lexed to exactly that sequence.  With `C15_tree` this is the text-level
round trip of every s-expression. -/
theorem C15_text : ∀ (toks : List Tok), (∀ t ∈ toks, SafeTok t) →
    lexAll (toks.length + 1) (renderToks toks) = some toks := by
  intro toks hs
  induction toks with
  | nil => rfl
  | cons t ts ih =>
    rw [renderToks, List.length_cons, lexAll, nextTok_render (hs t List.mem_cons_self) (by decide)]
    simp only
    rw [lexAll_space, ih (fun x hx => hs x (List.mem_cons_of_mem _ hx))]
    rfl

/-- non-vacuity: `(set (f "a\"b") -3)` -/
example : lexAll 9 (renderToks [.open, .other "set".toList, .open, .other "f".toList, .str "a\"b".toList, .close,
    .other "-3".toList, .close]) = some [.open, .other "set".toList, .open, .other "f".toList, .str "a\"b".toList, .close,
    .other "-3".toList, .close] := by decide +kernel

end EgglogVerif.Sexp
