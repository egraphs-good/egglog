import EgglogVerif.Model.Session
/-
C08 — push/pop gives perfect snapshot isolation (model level).

For EVERY command semantics `run`, every prefix `P`, every balanced body `Q` (declarations, runs,
failing commands, nested push/pop — anything) and every continuation `R`:
the state after `P; push; Q; pop` is the state after `P`, hence `R` behaves identically.

Not in the model: `EGraph::pop` keeps two fields of the e-graph it discards, `overall_run_report` and
the parser's `symbol_gen` (it swaps them into the restored one), so an `R` that prints the overall
statistics or draws fresh names can tell that `Q` ran.  The state `C` here is everything else.
-/
namespace EgglogVerif.Session

variable {α C O : Type} (run : α → C → C × O) (popErr unit : O)

theorem exec_cons (s : St C) (c : Cmd α) (cs : List (Cmd α)) :
    exec run popErr unit s (c :: cs) =
      ((exec run popErr unit (step run popErr unit s c).1 cs).1,
        (step run popErr unit s c).2 :: (exec run popErr unit (step run popErr unit s c).1 cs).2) := rfl

theorem exec_append (s : St C) (a b : List (Cmd α)) :
    exec run popErr unit s (a ++ b) =
      ((exec run popErr unit (exec run popErr unit s a).1 b).1,
        (exec run popErr unit s a).2 ++ (exec run popErr unit (exec run popErr unit s a).1 b).2) := by
  induction a generalizing s with
  | nil => rfl
  | cons c cs ih => simp only [List.cons_append, exec_cons, ih]

theorem length_exec (s : St C) (l : List (Cmd α)) : (exec run popErr unit s l).2.length = l.length := by
  induction l generalizing s with
  | nil => rfl
  | cons c cs ih => simp only [exec_cons, List.length_cons, ih]

/-- frame property: a command list that never pops below its starting depth leaves the stack
underneath untouched -/
theorem exec_preserves_base (q : List (Cmd α)) (cur : C) (pre base : List C) (k : Nat)
    (h : depthAfter q pre.length = some k) :
    ∃ pre', (exec run popErr unit ⟨cur, pre ++ base⟩ q).1.stack = pre' ++ base ∧ pre'.length = k := by
  induction q generalizing cur pre with
  | nil => exact ⟨pre, rfl, Option.some.inj h⟩
  | cons c cs ih =>
    rw [exec_cons]
    cases c with
    | push => exact ih cur (cur :: pre) h
    | pop =>
      cases pre with
      | nil => cases h
      | cons p ps => exact ih p ps h
    | other a => exact ih (run a cur).1 pre h

theorem exec_balanced (s : St C) (q : List (Cmd α)) (hq : Balanced q) :
    (exec run popErr unit s q).1.stack = s.stack := by
  obtain ⟨pre', he, hl⟩ := exec_preserves_base run popErr unit q s.cur [] s.stack 0 hq
  rwa [List.eq_nil_of_length_eq_zero hl] at he

/-- **Snapshot isolation**: `push; Q; pop` with `Q` balanced restores exactly the state before
the `push` — core state and stack. -/
theorem C08_pushpop_state (s : St C) (q : List (Cmd α)) (hq : Balanced q) :
    (exec run popErr unit s (Cmd.push :: q ++ [Cmd.pop])).1 = s := by
  have hb := exec_balanced run popErr unit ⟨s.cur, s.cur :: s.stack⟩ q hq
  simp only [List.cons_append, exec_cons, exec_append, step]
  rw [hb]
  rfl

/-- **… so every continuation `R` produces the same outputs and the same final state** as if
`push; Q; pop` had never been issued. -/
theorem C08_pushpop (s : St C) (q r : List (Cmd α)) (hq : Balanced q) :
    let full := exec run popErr unit s (Cmd.push :: q ++ [Cmd.pop] ++ r)
    let plain := exec run popErr unit s r
    full.1 = plain.1 ∧ full.2.drop (q.length + 2) = plain.2 := by
  dsimp only
  rw [exec_append, C08_pushpop_state run popErr unit s q hq]
  exact ⟨rfl, List.drop_left' (by rw [length_exec, List.length_append]; rfl)⟩

/-- names declared inside the bracket are free again afterwards: the core state (which holds the
declarations) is literally the old one -/
theorem C08_redeclare (s : St C) (q : List (Cmd α)) (hq : Balanced q) :
    (exec run popErr unit s (Cmd.push :: q ++ [Cmd.pop])).1.cur = s.cur := by
  rw [C08_pushpop_state run popErr unit s q hq]

example : Balanced ([.push, .other 1, .pop, .other 2] : List (Cmd Nat)) := rfl

end EgglogVerif.Session
