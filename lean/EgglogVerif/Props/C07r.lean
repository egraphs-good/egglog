import EgglogVerif.Props.C07
/-
C07 (second half) — the term that extraction returns.

`bellman_ford` chooses one row per class (`parent_edge`) and `reconstruct_termdag_node` follows
those choices recursively.  Reconstruction is proved for ANY choice of rows that is *guarded* on a
set of classes (`C07_reconstruct`): each chosen row is a live best row of its class, and its
children are again in the set, at a strictly smaller level.  The rank-guarded choice of the code
(`save_best_parent_edge`) is NOT total: with saturating costs a class can be left without any
eligible row although it has a cost (`C07_rank_gap_defect`; defect 4 on the pinned tree: the
`unwrap` in reconstruction panicked).  The grounded-set repair (the `fix:` commit for defect 4)
keeps a guarded choice, with the grounding order as level, and at the cost fixpoint, with more
fuel than classes, leaves no class that has a term without one.
-/
namespace EgglogVerif.Extract

/-- `t` is a term of class `c` built from non-subsumed rows of `edges` -/
inductive Member (edges : List Edge) : Tm → Nat → Prop
  | mk (e : Edge) (kids : List Tm) : e ∈ edges → e.sub = false → kids.length = e.children.length →
      (∀ i (h1 : i < kids.length) (h2 : i < e.children.length), Member edges kids[i] e.children[i]) →
      Member edges (.node e kids) e.target

/-- a chosen row is a live best row of its class -/
structure EdgeOk (edges : List Edge) (costs : Costs) (c : Nat) (e : Edge) : Prop where
  mem : e ∈ edges
  live : e.sub = false
  tgt : e.target = c
  has : (costs c).isSome = true
  best : edgeCost costs e = costs c

/-- the choice is guarded on the classes satisfying `G`, with level function `lvl` -/
def Guarded (edges : List Edge) (costs : Costs) (parent : Parent) (G : Nat → Prop) (lvl : Nat → Nat) : Prop :=
  ∀ c, G c → ∃ e, parent c = some e ∧ EdgeOk edges costs c e ∧ ∀ ch ∈ e.children, G ch ∧ lvl ch < lvl c

theorem costList_eq_map (kids : List Tm) : costList kids = kids.map Tm.cost := by
  induction kids with
  | nil => rfl
  | cons t ts ih => rw [costList, ih]; rfl

/-- **Reconstruction from a guarded choice** terminates (fuel `lvl c + 1` suffices) and returns a
member of the class whose tree cost is the recorded cost. -/
theorem C07_reconstruct {edges : List Edge} {costs : Costs} {parent : Parent} {G : Nat → Prop} {lvl : Nat → Nat}
    (hg : Guarded edges costs parent G lvl) :
    ∀ (n c : Nat), G c → lvl c < n →
      ∃ t, reconstruct parent n c = some t ∧ Member edges t c ∧ costs c = some t.cost := by
  intro n
  induction n with
  | zero => exact fun c _ h => absurd h (Nat.not_lt_zero _)
  | succ n ih =>
    intro c hc hl
    obtain ⟨e, hp, ok, hch⟩ := hg c hc
    -- the terms of the children, all at once
    obtain ⟨kids, hk⟩ := exists_forall₂ fun ch hx =>
      ih ch (hch ch hx).1 (Nat.lt_of_lt_of_le (hch ch hx).2 (Nat.le_of_lt_succ hl))
    obtain ⟨hlen, hmem⟩ := (hk.imp fun h => h.2.1).getElem
    have hcost : lookupAll costs e.children = some (costList kids) :=
      lookupAll_eq_some.mpr (costList_eq_map kids ▸ (hk.imp fun h => h.2.2).map_right)
    refine ⟨.node e kids, ?_, ok.tgt ▸ .mk e kids ok.mem ok.live hlen.symm fun i h1 h2 => hmem i h2 h1, ?_⟩
    · simp only [reconstruct, hp, mapOpt_eq_some.mpr (hk.imp fun h => h.1), Option.map_some]
    · rw [← ok.best, edgeCost, hcost]; rfl

/-- a member term is a derivation in the sense of the cost theorems: its cost is a `Reach` cost
(so by `C07_optimal` no member of the class is cheaper than the recorded cost) -/
theorem member_reach {edges : List Edge} {t : Tm} {c : Nat} (h : Member edges t c) : Reach edges c t.cost := by
  induction h with
  | mk e kids he hs hl _ ih =>
    have hk : Forall₂ (fun c t => Reach edges c t.cost) e.children kids :=
      .of_getElem hl.symm fun i h1 h2 => ih i h2 h1
    rw [Tm.cost, costList_eq_map]
    exact Reach.node he hs hk.map_right

/-! ### the rank-guarded choice of the code -/

theorem C07_pick_guarded {edges : List Edge} {costs : Costs} {rank : Nat → Nat} {c : Nat} {e : Edge}
    (h : pickEdge edges costs rank c = some e) :
    EdgeOk edges costs c e ∧ ∀ ch ∈ e.children, rank ch < rank c := by
  have hp := List.find?_some h
  simp only [Bool.and_eq_true, Bool.not_eq_true', beq_iff_eq, List.all_eq_true, decide_eq_true_eq] at hp
  obtain ⟨⟨⟨⟨h1, h2⟩, h3⟩, h4⟩, h5⟩ := hp
  exact ⟨⟨List.mem_of_find?_eq_some h, h1, h2, h4, h3⟩, h5⟩

/-- the rows of defect 4: `Leaf`, `Mid Leaf` (100), three nested `Big` (2^63-1 each), `Cheap Leaf` (1)
unioned with `Mid Leaf`; classes 0 = Leaf, 1 = {Mid Leaf, Cheap Leaf}, 2,3,4 = Big^k -/
def d4Edges : List Edge :=
  [⟨1, [], 0, false⟩, ⟨100, [0], 1, false⟩, ⟨2 ^ 63 - 1, [1], 2, false⟩, ⟨2 ^ 63 - 1, [2], 3, false⟩,
   ⟨2 ^ 63 - 1, [3], 4, false⟩, ⟨1, [0], 1, false⟩]

/-- **Defect 4, by kernel evaluation of the model**: at the cost fixpoint class 3 has a (saturated)
cost, and the rank guard rejects its only best row — the later improvement of class 1 re-stamped
class 2 without improving class 3. -/
theorem C07_rank_gap_defect :
    let s := (bellmanFordR d4Edges 10 ⟨noCosts, fun _ => 0, 0⟩)
    s.2 = true ∧ s.1.costs 3 = some cap ∧ pickEdge d4Edges s.1.costs s.1.rank 3 = none := by
  decide +kernel

/-! ### the grounded-set repair -/

/-- position of a class in the grounding order -/
def pos (g : List Nat) (c : Nat) : Nat := g.idxOf c

structure GInv (edges : List Edge) (costs : Costs) (s : GState) : Prop where
  recd : ∀ c e, s.parent c = some e → EdgeOk edges costs c e
  grd : ∀ c, c ∈ s.grounded → ∃ e, s.parent c = some e ∧ ∀ ch ∈ e.children, ch ∈ s.grounded ∧ pos s.grounded ch < pos s.grounded c

theorem pos_append_old {g : List Nat} {c : Nat} (h : c ∈ g) (x : List Nat) : pos (g ++ x) c = pos g c := by
  rw [pos, List.idxOf_append, if_pos h]; rfl

theorem pos_new {g : List Nat} {c : Nat} (h : c ∉ g) : pos (g ++ [c]) c = g.length := by
  rw [pos, List.idxOf_append, if_neg h, List.idxOf_cons_self, Nat.zero_add]

theorem childrenGrounded_iff {g : List Nat} {e : Edge} : childrenGrounded g e = true ↔ ∀ ch ∈ e.children, ch ∈ g := by
  simp only [childrenGrounded, List.all_eq_true, List.contains_iff_mem]

/-- the one way in which both sweeps change the state; `p` is `s.parent` itself in phase 1 and its
update at `c` in phase 2 -/
theorem GInv.add {edges : List Edge} {costs : Costs} {s : GState} (i : GInv edges costs s) {p : Parent} {c : Nat} {e : Edge}
    (hc : c ∉ s.grounded) (hp : p c = some e) (hp' : ∀ x, x ≠ c → p x = s.parent x)
    (ok : EdgeOk edges costs c e) (hch : ∀ ch ∈ e.children, ch ∈ s.grounded) :
    GInv edges costs ⟨p, s.grounded ++ [c]⟩ := by
  constructor
  · intro x e' hx
    by_cases hxc : x = c
    · cases hp.symm.trans (hxc ▸ hx); exact hxc ▸ ok
    · exact i.recd x e' (hp' x hxc ▸ hx)
  · intro x hx
    rcases List.mem_append.mp hx with hx | hx
    · have hne : x ≠ c := fun h => hc (h ▸ hx)
      obtain ⟨e', he', hk⟩ := i.grd x hx
      refine ⟨e', (hp' x hne).trans he', fun ch hm => ?_⟩
      obtain ⟨a, b⟩ := hk ch hm
      exact ⟨List.mem_append_left _ a, by rw [pos_append_old a, pos_append_old hx]; exact b⟩
    · cases List.mem_singleton.mp hx
      refine ⟨e, hp, fun ch hm => ?_⟩
      have a := hch ch hm
      exact ⟨List.mem_append_left _ a, by rw [pos_append_old a, pos_new hc]; exact List.idxOf_lt_length_iff.mpr a⟩

/-- a row that the second phase of the repair would use in state `s` -/
structure Eligible (costs : Costs) (s : GState) (e : Edge) : Prop where
  live : e.sub = false
  fresh : e.target ∉ s.grounded
  has : (costs e.target).isSome = true
  best : edgeCost costs e = costs e.target
  grounded : ∀ ch ∈ e.children, ch ∈ s.grounded

theorem groundBest_cons (e : Edge) (es : List Edge) (costs : Costs) (s : GState) :
    groundBest (e :: es) costs s = groundBest es costs (groundBest [e] costs s) := List.foldl_cons ..

theorem groundBest_single (costs : Costs) (s : GState) (e : Edge) :
    (¬ Eligible costs s e ∧ groundBest [e] costs s = s) ∨
    (Eligible costs s e ∧
      groundBest [e] costs s = ⟨fun c => if c = e.target then some e else s.parent c, s.grounded ++ [e.target]⟩) := by
  -- `groundBest [e] costs s` reduces to the `if` of the step
  refine iteInduction (motive := fun r => (_ ∧ r = s) ∨ (_ ∧ r = _))
    (fun hc => .inl ⟨fun h => ?_, rfl⟩) (fun hc => .inr ⟨?_, rfl⟩)
  · simp [h.live, h.fresh, Option.isSome_iff_ne_none.mp h.has, h.best, childrenGrounded_iff.mpr h.grounded] at hc
  · simp only [Bool.or_eq_true, not_or, Bool.not_eq_true, Bool.not_eq_true', List.contains_eq_mem, decide_eq_false_iff_not,
      Option.isNone_eq_false_iff, bne_eq_false_iff_eq, Bool.not_eq_false, childrenGrounded_iff] at hc
    obtain ⟨⟨⟨⟨h1, h2⟩, h3⟩, h4⟩, h5⟩ := hc
    exact ⟨h1, h2, h3, h4, h5⟩

theorem groundRecorded_ind {P : GState → Prop} {cands : List Nat}
    (add : ∀ s c e, P s → c ∈ cands → c ∉ s.grounded → s.parent c = some e → (∀ ch ∈ e.children, ch ∈ s.grounded) →
      P ⟨s.parent, s.grounded ++ [c]⟩)
    {s : GState} (h : P s) : P (groundRecorded cands s) :=
  List.foldlRecOn cands _ h fun s h c hc => by
    refine iteInduction (motive := P) (fun _ => h) fun hf => ?_
    cases he : s.parent c with
    | none => exact h
    | some e =>
      exact iteInduction (motive := P) (fun hch =>
        add s c e h hc (mt List.contains_iff_mem.mpr hf) he (childrenGrounded_iff.mp hch)) fun _ => h

theorem groundBest_ind {P : GState → Prop} {edges : List Edge} {costs : Costs}
    (add : ∀ s e, P s → e ∈ edges → Eligible costs s e →
      P ⟨fun c => if c = e.target then some e else s.parent c, s.grounded ++ [e.target]⟩)
    {s : GState} (h : P s) : P (groundBest edges costs s) :=
  List.foldlRecOn edges _ h fun s h e he => by
    show P (groundBest [e] costs s)
    rcases groundBest_single costs s e with ⟨_, h'⟩ | ⟨el, h'⟩
    · rw [h']; exact h
    · rw [h']; exact add s e h he el

theorem groundRecorded_len (cands : List Nat) (s : GState) :
    s.grounded.length ≤ (groundRecorded cands s).grounded.length :=
  groundRecorded_ind (P := fun s' => s.grounded.length ≤ s'.grounded.length)
    (fun _ _ _ h _ _ _ _ => List.length_append ▸ Nat.le_trans h (Nat.le_add_right ..)) (Nat.le_refl _)

theorem groundBest_len (costs : Costs) (es : List Edge) (s : GState) :
    s.grounded.length ≤ (groundBest es costs s).grounded.length :=
  groundBest_ind (P := fun s' => s.grounded.length ≤ s'.grounded.length)
    (fun _ _ h _ _ => List.length_append ▸ Nat.le_trans h (Nat.le_add_right ..)) (Nat.le_refl _)

theorem GInv.groundRecorded {edges : List Edge} {costs : Costs} (cands : List Nat) {s : GState}
    (i : GInv edges costs s) : GInv edges costs (groundRecorded cands s) :=
  groundRecorded_ind (fun _ c e i _ hc he hch => i.add hc he (fun _ _ => rfl) (i.recd c e he) hch) i

theorem GInv.groundBest {edges : List Edge} {costs : Costs} {s : GState}
    (i : GInv edges costs s) : GInv edges costs (groundBest edges costs s) :=
  groundBest_ind (fun _ _ i he el =>
    i.add el.fresh (if_pos rfl) (fun _ hx => if_neg hx) ⟨he, el.live, rfl, el.has, el.best⟩ el.grounded) i

/-- **The repair keeps a guarded choice on the grounded classes** — it can never select a cycle. -/
theorem C07_ground_guarded {edges : List Edge} {costs : Costs} {cands : List Nat} : ∀ (fuel : Nat) {s : GState},
    GInv edges costs s → GInv edges costs (groundLoop edges costs cands fuel s) := by
  intro fuel s
  fun_induction groundLoop edges costs cands fuel s with
  | case1 => exact id
  | case2 _ _ _ _ ih => exact fun i => ih (i.groundRecorded cands)
  | case3 _ _ _ _ _ _ ih => exact fun i => ih (i.groundRecorded cands).groundBest
  | case4 => exact fun i => (i.groundRecorded cands).groundBest

theorem GInv.closeRecorded {edges : List Edge} {costs : Costs} {cands : List Nat} : ∀ (fuel : Nat) {s : GState},
    GInv edges costs s → GInv edges costs (closeRecorded cands fuel s) := by
  intro fuel s
  fun_induction Extract.closeRecorded cands fuel s with
  | case1 => exact id
  | case2 _ _ _ _ ih => exact fun i => ih (i.groundRecorded cands)
  | case3 => exact fun i => i.groundRecorded cands

theorem GInv.guarded {edges : List Edge} {costs : Costs} {s : GState} (i : GInv edges costs s) :
    Guarded edges costs s.parent (· ∈ s.grounded) (pos s.grounded) := by
  intro c hc
  obtain ⟨e, he, hk⟩ := i.grd c hc
  exact ⟨e, he, i.recd c e he, hk⟩

theorem GInv.init (edges : List Edge) (costs : Costs) (rank : Nat → Nat) :
    GInv edges costs ⟨fun c => pickEdge edges costs rank c, []⟩ :=
  ⟨fun _ _ h => (C07_pick_guarded h).1, List.forall_mem_nil _⟩

theorem extractAll_cases (edges : List Edge) (fuel : Nat) :
    let s := (bellmanFordR edges fuel ⟨noCosts, fun _ => 0, 0⟩).1
    let s0 : GState := ⟨fun c => pickEdge edges s.costs s.rank c, []⟩
    extractAll edges fuel = (groundLoop edges s.costs (classesOf edges) fuel s0, s.costs, true) ∨
    extractAll edges fuel = (closeRecorded (classesOf edges) fuel s0, s.costs, false) :=
  iteInduction (motive := fun r => r = _ ∨ r = _) (fun _ => .inl rfl) fun _ => .inr rfl

theorem GInv.extractAll (edges : List Edge) (fuel : Nat) :
    GInv edges (extractAll edges fuel).2.1 (extractAll edges fuel).1 := by
  rcases extractAll_cases edges fuel with h | h
  · rw [h]; exact C07_ground_guarded fuel (GInv.init ..)
  · rw [h]; exact GInv.closeRecorded fuel (GInv.init ..)

/-- **Every class the pipeline declares reconstructible yields a member term of exactly the
recorded cost** (rank-guarded choice when it is total, grounded-set repair otherwise). -/
theorem C07_extract_term (edges : List Edge) (fuel c : Nat) (hc : c ∈ (extractAll edges fuel).1.grounded) :
    ∃ n t, reconstruct (extractAll edges fuel).1.parent n c = some t ∧ Member edges t c ∧
      (extractAll edges fuel).2.1 c = some t.cost :=
  ⟨_, C07_reconstruct (GInv.extractAll edges fuel).guarded _ c hc (Nat.lt_succ_self _)⟩

/-! ### totality of the repair: no costed class is left without a term -/

theorem reach_le_cap {edges : List Edge} (hh : ∀ e ∈ edges, e.head ≤ cap) {c k : Nat} (r : Reach edges c k) : k ≤ cap := by
  cases r with
  | mk e cs he _ _ _ => rw [satSum_eq (hh e he)]; exact Nat.min_le_left ..

theorem groundBest_noprogress (costs : Costs) : ∀ (es : List Edge) (s : GState),
    (groundBest es costs s).grounded.length = s.grounded.length →
    (∀ e ∈ es, ¬ Eligible costs s e) ∧ groundBest es costs s = s := by
  intro es
  induction es with
  | nil => exact fun s _ => ⟨List.forall_mem_nil _, rfl⟩
  | cons e es ih =>
    intro s hlen
    have hmono := groundBest_len costs es (groundBest [e] costs s)
    rw [groundBest_cons] at hlen ⊢
    rcases groundBest_single costs s e with ⟨hn, h⟩ | ⟨_, h⟩
    · rw [h] at hlen ⊢
      exact ⟨List.forall_mem_cons.mpr ⟨hn, (ih s hlen).1⟩, (ih s hlen).2⟩
    · -- the step lengthened the list, and the rest of the sweep never shortens it
      rw [h] at hlen hmono
      rw [List.length_append] at hmono
      exact absurd hlen (Nat.ne_of_gt (Nat.lt_of_lt_of_le (Nat.lt_succ_self _) hmono))

/-- The heart of the totality argument.  The top row of a derivation of the recorded cost is a best
row (stability), so it would be eligible were its children grounded.  A child that is not has a
recorded cost that is not smaller, yet at most the cost of its sub-derivation, which the total
dominates: the three agree, and the argument descends into the sub-derivation. -/
theorem grounded_of_optimal {edges : List Edge} {costs : Costs} (hst : Stable edges costs) (hh : ∀ e ∈ edges, e.head ≤ cap)
    {s : GState} (hne : ∀ e ∈ edges, ¬ Eligible costs s e) {c k : Nat} (r : Reach edges c k) :
    costs c = some k → (∀ c' k', costs c' = some k' → k' < k → c' ∈ s.grounded) → c ∈ s.grounded := by
  refine Reach.induct (fun e cs he hsub hcs hck hlow => ?_) r
  obtain ⟨k, hk, hle⟩ := edgeCost_le_satSum (costs := costs) (hcs.imp fun h => hst.le_reach h.1)
  obtain ⟨k', hk', hle'⟩ := hst.le_edgeCost he hsub hk
  cases hck.symm.trans hk'
  obtain ⟨hlen, hidx⟩ := hcs.getElem
  have hch : ∀ ch ∈ e.children, ch ∈ s.grounded := by
    intro ch hx
    obtain ⟨j, hj, rfl⟩ := List.getElem_of_mem hx
    obtain ⟨rj, ihj⟩ := hidx j hj (hlen ▸ hj)
    obtain ⟨kj, hkj, hlej⟩ := hst.le_reach rj
    have hsup := satSum_ge_mem (h := e.head) (hh e he) (List.getElem_mem (hlen ▸ hj)) (reach_le_cap hh rj)
    by_cases hlt : kj < satSum e.head cs
    · exact hlow _ _ hkj hlt
    · have heq := Nat.le_antisymm hlej (Nat.le_trans hsup (Nat.le_of_not_lt hlt))
      exact ihj (heq ▸ hkj) fun c' k' h1 h2 => hlow c' k' h1 (Nat.lt_of_lt_of_le h2 hsup)
  exact Decidable.by_contra fun hcg =>
    hne e he ⟨hsub, hcg, by rw [hck]; rfl, by rw [hk, hck, Nat.le_antisymm hle hle'], hch⟩

/-- **The repair is total**: at the cost fixpoint, once the second phase of the repair makes no
more progress, EVERY class that has a cost is grounded — so (with `C07_extract_term`) extraction
fails only when the class has no term at all. -/
theorem C07_repair_total {edges : List Edge} {costs : Costs} (hs : Sound edges costs) (hst : Stable edges costs)
    (hh : ∀ e ∈ edges, e.head ≤ cap) (s : GState)
    (hnp : (groundBest edges costs s).grounded.length = s.grounded.length) :
    ∀ c k, costs c = some k → c ∈ s.grounded := by
  intro c k
  induction k using Nat.strongRecOn generalizing c with
  | _ k ih =>
    exact fun hc => grounded_of_optimal hst hh (groundBest_noprogress costs edges s hnp).1 (hs c k hc) hc
      fun c' k' h hlt => ih k' hlt c' h

/-! ### the rank bookkeeping does not change the costs or the fixpoint flag -/

theorem relaxR_costs (s : RState) (e : Edge) : ((relaxR s e).1.costs, (relaxR s e).2) = relax s.costs e := by
  unfold relaxR
  rcases relax_cases s.costs e with ⟨h, _⟩ | ⟨_, _, _, h⟩
  · rw [h]; rfl
  · rw [h]; rfl

theorem passR_costs (edges : List Edge) (s : RState) :
    ((passR edges s).1.costs, (passR edges s).2) = pass edges s.costs :=
  (List.foldl_hom (fun a : RState × Bool => (a.1.costs, a.2)) fun a e => by rw [← relaxR_costs a.1 e]).symm

theorem bellmanFordR_costs (edges : List Edge) (fuel : Nat) (s : RState) :
    ((bellmanFordR edges fuel s).1.costs, (bellmanFordR edges fuel s).2) = bellmanFord edges fuel s.costs := by
  fun_induction bellmanFordR edges fuel s with
  | case1 => rfl
  | case2 fuel s r hr ih => rw [bellmanFord, ← passR_costs edges s, if_pos hr]; exact ih
  | case3 fuel s r hr => rw [bellmanFord, ← passR_costs edges s, if_neg hr]

/-! ### the repair loop reaches its no-progress state (termination of `groundLoop`) -/

structure GOk (edges : List Edge) (s : GState) : Prop where
  nodup : s.grounded.Nodup
  sub : ∀ c ∈ s.grounded, c ∈ classesOf edges

theorem mem_classesOf {edges : List Edge} {e : Edge} (h : e ∈ edges) : e.target ∈ classesOf edges :=
  List.mem_eraseDups.mpr (List.mem_map.mpr ⟨e, h, rfl⟩)

theorem GOk.add {edges : List Edge} {s : GState} (h : GOk edges s) (p : Parent) {c : Nat} (hc : c ∉ s.grounded)
    (hcl : c ∈ classesOf edges) : GOk edges ⟨p, s.grounded ++ [c]⟩ where
  nodup := List.nodup_append.mpr ⟨h.nodup, List.pairwise_singleton _ c, fun a ha b hb hab =>
    hc (List.mem_singleton.mp hb ▸ hab ▸ ha)⟩
  sub x hx := by
    rcases List.mem_append.mp hx with hx | hx
    · exact h.sub x hx
    · exact List.mem_singleton.mp hx ▸ hcl

theorem GOk.len_le {edges : List Edge} {s : GState} (h : GOk edges s) : s.grounded.length ≤ (classesOf edges).length :=
  List.Nodup.length_le_of_subset h.nodup (fun c hc => h.sub c hc)

theorem GOk.groundRecorded {edges : List Edge} {s : GState} (h : GOk edges s) :
    GOk edges (groundRecorded (classesOf edges) s) :=
  groundRecorded_ind (fun _ _ _ h hcl hc _ _ => h.add _ hc hcl) h

theorem GOk.groundBest {edges : List Edge} (costs : Costs) {s : GState} (h : GOk edges s) :
    GOk edges (groundBest edges costs s) :=
  groundBest_ind (fun _ _ h he el => h.add _ el.fresh (mem_classesOf he)) h

/-- a round that lengthens the grounded list (from `a` to `b`, of `n` classes) leaves enough fuel -/
theorem fuel_left {n a b k : Nat} (hf : n - a < k + 1) (hle : a ≤ b) (hne : b ≠ a) (hb : b ≤ n) : n - b < k :=
  have hab : a < b := Nat.lt_of_le_of_ne hle (Ne.symm hne)
  Nat.lt_of_lt_of_le (Nat.sub_lt_sub_left (Nat.lt_of_lt_of_le hab hb) hab) (Nat.le_of_lt_succ hf)

/-- **The repair loop terminates in its no-progress state**: with as much fuel as there are
classes (plus one) it does not run out of fuel — a further sweep of phase 2 adds nothing to its
result, which is the hypothesis of `C07_repair_total`. -/
theorem C07_repair_terminates (edges : List Edge) (costs : Costs) : ∀ (fuel : Nat) (s : GState), GOk edges s →
    (classesOf edges).length - s.grounded.length < fuel →
    (groundBest edges costs (groundLoop edges costs (classesOf edges) fuel s)).grounded.length
      = (groundLoop edges costs (classesOf edges) fuel s).grounded.length := by
  intro fuel s
  fun_induction groundLoop edges costs (classesOf edges) fuel s with
  | case1 => exact fun _ h => absurd h (Nat.not_lt_zero _)
  | case2 _ s s1 h1 ih =>
    exact fun hok hf => ih hok.groundRecorded (fuel_left hf (groundRecorded_len _ s) h1 hok.groundRecorded.len_le)
  | case3 _ s s1 h1 s2 h2 ih =>
    intro hok hf
    have hok2 : GOk edges s2 := hok.groundRecorded.groundBest costs
    rw [← Decidable.of_not_not h1] at hf
    exact ih hok2 (fuel_left hf (groundBest_len costs edges s1) h2 hok2.len_le)
  | case4 _ s s1 _ s2 h2 =>
    -- the loop stops with the result of a sweep that added nothing, hence changed nothing
    have e : s2 = s1 := (groundBest_noprogress costs edges s1 (Decidable.of_not_not h2)).2
    exact fun _ _ => e.symm ▸ congrArg (·.grounded.length) e

/-- the empty start state of the pipeline, with enough fuel -/
theorem C07_repair_terminates_init (edges : List Edge) (costs : Costs) (parent0 : Parent) (fuel : Nat)
    (hf : (classesOf edges).length < fuel) :
    (groundBest edges costs (groundLoop edges costs (classesOf edges) fuel ⟨parent0, []⟩)).grounded.length
      = (groundLoop edges costs (classesOf edges) fuel ⟨parent0, []⟩).grounded.length :=
  C07_repair_terminates edges costs fuel ⟨parent0, []⟩ ⟨List.nodup_nil, List.forall_mem_nil _⟩ hf

/-- **Extraction fails only when the class has no term** — for the repaired pipeline of the model:
at the cost fixpoint, with every head cost within `u64`, once the repair's second phase makes no
more progress every class with a derivation (`Reach`) is grounded, hence (by `C07_reconstruct`)
has a member term of its recorded cost. -/
theorem C07_pipeline_total (edges : List Edge) (fuel : Nat) (hh : ∀ e ∈ edges, e.head ≤ cap)
    (hfix : (bellmanFordR edges fuel ⟨noCosts, fun _ => 0, 0⟩).2 = true) (s : GState)
    (hnp : (groundBest edges (bellmanFordR edges fuel ⟨noCosts, fun _ => 0, 0⟩).1.costs s).grounded.length = s.grounded.length)
    (c k : Nat) (r : Reach edges c k) : c ∈ s.grounded := by
  obtain ⟨hs, hst⟩ := bellmanFordR_costs edges fuel ⟨noCosts, fun _ => 0, 0⟩ ▸ bellmanFord_noCosts edges fuel
  obtain ⟨k', hk', _⟩ := (hst hfix).le_reach r
  exact C07_repair_total hs (hst hfix) hh s hnp c k' hk'

/-- **Whenever the repair runs, extraction fails only for classes without any term** — no
hypothesis on the repair loop: the cost loop reached its fixpoint (`hfix`) and the fuel exceeds the
number of classes. -/
theorem C07_extract_total (edges : List Edge) (fuel : Nat) (hh : ∀ e ∈ edges, e.head ≤ cap)
    (hfix : (bellmanFordR edges fuel ⟨noCosts, fun _ => 0, 0⟩).2 = true)
    (hf : (classesOf edges).length < fuel) (hrep : (extractAll edges fuel).2.2 = true)
    (c k : Nat) (r : Reach edges c k) : c ∈ (extractAll edges fuel).1.grounded := by
  rcases extractAll_cases edges fuel with h | h
  · rw [h]
    exact C07_pipeline_total edges fuel hh hfix _ (C07_repair_terminates_init edges _ _ fuel hf) c k r
  · rw [h] at hrep; cases hrep

end EgglogVerif.Extract
