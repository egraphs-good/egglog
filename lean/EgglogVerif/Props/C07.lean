import EgglogVerif.Model.Extract
import EgglogVerif.Lemmas.List
/-
C07 — Extraction returns a member of the class, at the minimum cost (cost computation).

`Reach edges c k` : "class `c` has a finite term built from non-subsumed extractable rows whose
tree cost (saturating) is `k`".  The theorems say that at the Bellman-Ford fixpoint the recorded
cost of every class is the MINIMUM of those `k`, and is absent exactly when no such term exists —
for every set of rows (cyclic classes, zero costs, ties, saturation included).
-/
namespace EgglogVerif.Extract

/-- derivations of (class, tree cost) pairs; premises are index-wise to avoid a nested inductive -/
inductive Reach (edges : List Edge) : Nat → Nat → Prop
  | mk (e : Edge) (cs : List Nat) : e ∈ edges → e.sub = false → cs.length = e.children.length →
      (∀ i (h1 : i < e.children.length) (h2 : i < cs.length), Reach edges e.children[i] cs[i]) →
      Reach edges e.target (satSum e.head cs)

/-- parallel lists (children, costs, terms); `getElem` and `of_getElem` lead from and to the
index-wise premises of `Reach` and `Member` -/
inductive Forall₂ {α β : Type} (R : α → β → Prop) : List α → List β → Prop
  | nil : Forall₂ R [] []
  | cons {a b as bs} : R a b → Forall₂ R as bs → Forall₂ R (a :: as) (b :: bs)

section
variable {α β γ : Type}

theorem Forall₂.imp {R S : α → β → Prop} (hRS : ∀ {a b}, R a b → S a b) {as : List α} {bs : List β}
    (h : Forall₂ R as bs) : Forall₂ S as bs := by
  induction h with
  | nil => exact .nil
  | cons hab _ ih => exact .cons (hRS hab) ih

theorem Forall₂.getElem {R : α → β → Prop} {as : List α} {bs : List β} (h : Forall₂ R as bs) :
    as.length = bs.length ∧ ∀ i (h1 : i < as.length) (h2 : i < bs.length), R as[i] bs[i] := by
  induction h with
  | nil => exact ⟨rfl, fun i h1 => absurd h1 (Nat.not_lt_zero i)⟩
  | cons hab _ ih =>
    refine ⟨congrArg Nat.succ ih.1, fun i h1 h2 => ?_⟩
    cases i with
    | zero => exact hab
    | succ i => exact ih.2 i (Nat.lt_of_succ_lt_succ h1) (Nat.lt_of_succ_lt_succ h2)

theorem Forall₂.of_getElem {R : α → β → Prop} {as : List α} {bs : List β} (hlen : as.length = bs.length)
    (h : ∀ i (h1 : i < as.length) (h2 : i < bs.length), R as[i] bs[i]) : Forall₂ R as bs := by
  induction as generalizing bs with
  | nil => cases List.eq_nil_of_length_eq_zero hlen.symm; exact .nil
  | cons a as ih =>
    obtain ⟨b, bs, rfl⟩ := List.exists_cons_of_length_eq_add_one hlen.symm
    exact .cons (h 0 (Nat.zero_lt_succ _) (Nat.zero_lt_succ _))
      (ih (Nat.succ.inj hlen) fun i h1 h2 => h (i + 1) (Nat.succ_lt_succ h1) (Nat.succ_lt_succ h2))

theorem exists_forall₂ {R : α → β → Prop} {as : List α} (h : ∀ a ∈ as, ∃ b, R a b) : ∃ bs, Forall₂ R as bs := by
  induction as with
  | nil => exact ⟨[], .nil⟩
  | cons a as ih =>
    obtain ⟨b, hb⟩ := h a List.mem_cons_self
    obtain ⟨bs, hbs⟩ := ih fun x hx => h x (List.mem_cons_of_mem a hx)
    exact ⟨b :: bs, .cons hb hbs⟩

theorem Forall₂.split {R : α → β → Prop} {S : β → γ → Prop} {as : List α} {cs : List γ}
    (h : Forall₂ (fun a c => ∃ b, R a b ∧ S b c) as cs) : ∃ bs, Forall₂ R as bs ∧ Forall₂ S bs cs := by
  induction h with
  | nil => exact ⟨[], .nil, .nil⟩
  | cons hab _ ih =>
    obtain ⟨b, hr, hs⟩ := hab
    obtain ⟨bs, hrs, hss⟩ := ih
    exact ⟨b :: bs, .cons hr hrs, .cons hs hss⟩

theorem Forall₂.map_right {R : α → γ → Prop} {f : β → γ} {as : List α} {bs : List β}
    (h : Forall₂ (fun a b => R a (f b)) as bs) : Forall₂ R as (bs.map f) := by
  induction h with
  | nil => exact .nil
  | cons hab _ ih => exact .cons hab ih

theorem mapOpt_eq_some {f : α → Option β} {as : List α} {bs : List β} :
    mapOpt f as = some bs ↔ Forall₂ (fun a b => f a = some b) as bs := by
  constructor
  · intro h
    induction as generalizing bs with
    | nil => cases h; exact .nil
    | cons a as ih =>
      rw [mapOpt] at h
      split at h
      · rename_i h1 h2; cases h; exact .cons h1 (ih h2)
      · cases h
  · intro h
    induction h with
    | nil => rfl
    | cons hab _ ih => simp only [mapOpt, hab, ih]

end

theorem lookupAll_eq_mapOpt (costs : Costs) (l : List Nat) : lookupAll costs l = mapOpt costs l := by
  induction l with
  | nil => rfl
  | cons c cs ih =>
    rw [lookupAll, mapOpt, ih]
    cases costs c <;> cases mapOpt costs cs <;> rfl

theorem lookupAll_eq_some {costs : Costs} {l cs : List Nat} :
    lookupAll costs l = some cs ↔ Forall₂ (fun c k => costs c = some k) l cs := by
  rw [lookupAll_eq_mapOpt]; exact mapOpt_eq_some

theorem Reach.node {edges : List Edge} {e : Edge} {cs : List Nat} (he : e ∈ edges) (hsub : e.sub = false)
    (h : Forall₂ (Reach edges) e.children cs) : Reach edges e.target (satSum e.head cs) :=
  .mk e cs he hsub h.getElem.1.symm h.getElem.2

@[elab_as_elim]
theorem Reach.induct {edges : List Edge} {motive : Nat → Nat → Prop}
    (node : ∀ e cs, e ∈ edges → e.sub = false → Forall₂ (fun c k => Reach edges c k ∧ motive c k) e.children cs →
      motive e.target (satSum e.head cs))
    {c k : Nat} (h : Reach edges c k) : motive c k := by
  induction h with
  | mk e cs he hsub hlen hk ih =>
    exact node e cs he hsub (.of_getElem hlen.symm fun i h1 h2 => ⟨hk i h1 h2, ih i h1 h2⟩)

/-! ### the saturating fold: monotone, and dominating its summands -/

theorem satAdd_mono {a a' b b' : Nat} (h1 : a ≤ a') (h2 : b ≤ b') : satAdd a b ≤ satAdd a' b' :=
  Nat.le_min.mpr ⟨Nat.min_le_left .., Nat.le_trans (Nat.min_le_right ..) (Nat.add_le_add h1 h2)⟩

theorem satSum_mono {h h' : Nat} {cs cs' : List Nat} (hh : h ≤ h') (hle : Forall₂ (· ≤ ·) cs cs') :
    satSum h cs ≤ satSum h' cs' := by
  induction hle generalizing h h' with
  | nil => exact hh
  | cons hab _ ih => exact ih (satAdd_mono hh hab)

theorem min_min_add (c a b : Nat) : min c (min c a + b) = min c (a + b) := by
  rw [← Nat.add_min_add_right, ← Nat.min_assoc, Nat.min_add_right_self]

/-- so the order of the summands is immaterial, as folding base-value children into `Edge.head` assumes -/
theorem satSum_eq {h : Nat} (hh : h ≤ cap) (cs : List Nat) : satSum h cs = min cap (h + cs.sum) := by
  induction cs generalizing h with
  | nil => exact (Nat.min_eq_right hh).symm
  | cons c cs ih =>
    rw [show satSum h (c :: cs) = satSum (satAdd h c) cs from rfl, satAdd, ih (Nat.min_le_left ..), min_min_add,
      List.sum_cons, Nat.add_assoc]

theorem le_sum_of_mem {c : Nat} {cs : List Nat} (h : c ∈ cs) : c ≤ cs.sum := by
  obtain ⟨s, t, rfl⟩ := List.append_of_mem h
  rw [List.sum_append_nat, List.sum_cons]
  exact Nat.le_trans (Nat.le_add_right ..) (Nat.le_add_left ..)

theorem satSum_ge_mem {h c : Nat} {cs : List Nat} (hh : h ≤ cap) (hm : c ∈ cs) (hc : c ≤ cap) : c ≤ satSum h cs :=
  satSum_eq hh cs ▸ Nat.le_min.mpr ⟨hc, Nat.le_trans (le_sum_of_mem hm) (Nat.le_add_left ..)⟩

/-- every recorded cost is the tree cost of a real term of that class -/
def Sound (edges : List Edge) (costs : Costs) : Prop := ∀ c k, costs c = some k → Reach edges c k

/-- no row can improve any class -/
def Stable (edges : List Edge) (costs : Costs) : Prop :=
  ∀ e ∈ edges, e.sub = false → ∀ cs, lookupAll costs e.children = some cs →
    ∃ k, costs e.target = some k ∧ k ≤ satSum e.head cs

/-- "no update" is stated as `Stable [e] costs`, stability for the one-row list: `Stable` is a
`∀ e ∈ edges`, so a pass without update gets `Stable edges costs` by `List.forall_mem_append`
alone (`pass_false`) -/
theorem relax_cases (costs : Costs) (e : Edge) :
    (relax costs e = (costs, false) ∧ Stable [e] costs) ∨
    (∃ cs, e.sub = false ∧ lookupAll costs e.children = some cs ∧
      relax costs e = (fun c => if c = e.target then some (satSum e.head cs) else costs c, true)) := by
  unfold relax edgeCost
  cases hsub : e.sub with
  | true => exact .inl ⟨rfl, List.forall_mem_singleton.mpr fun h => nomatch hsub.symm.trans h⟩
  | false =>
    cases hl : lookupAll costs e.children with
    | none => exact .inl ⟨rfl, List.forall_mem_singleton.mpr fun _ _ h => nomatch hl.symm.trans h⟩
    | some cs =>
      cases ht : costs e.target with
      | none => exact .inr ⟨cs, rfl, rfl, rfl⟩
      | some old =>
        by_cases hlt : satSum e.head cs < old
        · exact .inr ⟨cs, rfl, rfl, if_pos hlt⟩
        · exact .inl ⟨if_neg hlt, List.forall_mem_singleton.mpr fun _ _ h => by
            cases hl.symm.trans h; exact ⟨old, ht, Nat.le_of_not_lt hlt⟩⟩

theorem relax_sound {edges : List Edge} {costs : Costs} (hs : Sound edges costs) {e : Edge} (he : e ∈ edges) :
    Sound edges (relax costs e).1 := by
  rcases relax_cases costs e with ⟨h, _⟩ | ⟨cs, hsub, hl, h⟩
  · rw [h]; exact hs
  · rw [h]
    intro c k hk
    dsimp only at hk
    split at hk
    · cases hk; subst c
      exact Reach.node he hsub ((lookupAll_eq_some.mp hl).imp (hs _ _))
    · exact hs c k hk

theorem pass_sound {edges : List Edge} {costs : Costs} (hs : Sound edges costs) : Sound edges (pass edges costs).1 :=
  List.foldlRecOn (motive := fun (acc : Costs × Bool) => Sound edges acc.1) edges _ hs fun _ h _ he => relax_sound h he

theorem pass_false {edges : List Edge} {costs : Costs} (h : (pass edges costs).2 = false) :
    (pass edges costs).1 = costs ∧ Stable edges costs := by
  refine foldl_invariant _ (fun done (acc : Costs × Bool) => acc.2 = false → acc.1 = costs ∧ Stable done costs)
    (fun _ => ⟨rfl, List.forall_mem_nil _⟩) (fun done acc e ih h => ?_) edges h
  obtain ⟨hb, hr⟩ := Bool.or_eq_false_iff.mp h
  obtain ⟨hc, hst⟩ := ih hb
  rcases relax_cases acc.1 e with ⟨hsame, hcond⟩ | ⟨_, _, _, hupd⟩
  · exact ⟨(congrArg Prod.fst hsame).trans hc, List.forall_mem_append.mpr ⟨hst, hc ▸ hcond⟩⟩
  · rw [hupd] at hr; cases hr

theorem bellmanFord_spec (edges : List Edge) (fuel : Nat) (costs : Costs) (hs : Sound edges costs) :
    Sound edges (bellmanFord edges fuel costs).1 ∧
      ((bellmanFord edges fuel costs).2 = true → Stable edges (bellmanFord edges fuel costs).1) := by
  fun_induction bellmanFord edges fuel costs with
  | case1 => exact ⟨hs, fun h => nomatch h⟩
  | case2 fuel costs r hr ih => exact ih (pass_sound hs)
  | case3 fuel costs r hr =>
    obtain ⟨hsame, hst⟩ := pass_false (Bool.not_eq_true _ ▸ hr)
    exact ⟨pass_sound hs, fun _ => hsame.symm ▸ hst⟩

/-! ### stable costs are minimal -/

theorem edgeCost_le_satSum {costs : Costs} {e : Edge} {cs : List Nat}
    (h : Forall₂ (fun c k => ∃ k', costs c = some k' ∧ k' ≤ k) e.children cs) :
    ∃ k, edgeCost costs e = some k ∧ k ≤ satSum e.head cs := by
  obtain ⟨cs', hcs', hle⟩ := h.split
  exact ⟨_, congrArg (Option.map _) (lookupAll_eq_some.mpr hcs'), satSum_mono (Nat.le_refl _) hle⟩

theorem Stable.le_edgeCost {edges : List Edge} {costs : Costs} (hst : Stable edges costs) {e : Edge} (he : e ∈ edges)
    (hsub : e.sub = false) {k : Nat} (h : edgeCost costs e = some k) : ∃ k', costs e.target = some k' ∧ k' ≤ k := by
  obtain ⟨cs, hcs, rfl⟩ := Option.map_eq_some_iff.mp h
  exact hst e he hsub cs hcs

theorem Stable.le_reach {edges : List Edge} {costs : Costs} (hst : Stable edges costs) {c k : Nat}
    (h : Reach edges c k) : ∃ k', costs c = some k' ∧ k' ≤ k := by
  refine Reach.induct (fun e cs he hsub ih => ?_) h
  obtain ⟨k, hk, hle⟩ := edgeCost_le_satSum (ih.imp And.right)
  obtain ⟨k', hk', hle'⟩ := hst.le_edgeCost he hsub hk
  exact ⟨k', hk', Nat.le_trans hle' hle⟩

theorem min_of_sound_stable {edges : List Edge} {costs : Costs} (hs : Sound edges costs) (hst : Stable edges costs)
    {c k' : Nat} (hk : costs c = some k') : Reach edges c k' ∧ ∀ k, Reach edges c k → k' ≤ k := by
  refine ⟨hs c k' hk, fun k hr => ?_⟩
  obtain ⟨k'', h1, h2⟩ := hst.le_reach hr
  cases hk.symm.trans h1
  exact h2

theorem none_iff_of_sound_stable {edges : List Edge} {costs : Costs} (hs : Sound edges costs) (hst : Stable edges costs)
    {c : Nat} : costs c = none ↔ ¬ ∃ k, Reach edges c k := by
  constructor
  · rintro hn ⟨k, hr⟩
    obtain ⟨k', h1, _⟩ := hst.le_reach hr
    cases hn.symm.trans h1
  · intro hno
    cases hc : costs c with
    | none => rfl
    | some k => exact absurd ⟨k, hs c k hc⟩ hno

/-! ## Property theorems -/

theorem bellmanFord_noCosts (edges : List Edge) (fuel : Nat) :
    Sound edges (bellmanFord edges fuel noCosts).1 ∧
      ((bellmanFord edges fuel noCosts).2 = true → Stable edges (bellmanFord edges fuel noCosts).1) :=
  bellmanFord_spec edges fuel noCosts fun _ _ h => nomatch h

/-- **Every recorded cost is real**: it is the tree cost of some finite term of that class built
from non-subsumed rows (whatever the fuel). -/
theorem C07_sound (edges : List Edge) (fuel c k : Nat)
    (h : (bellmanFord edges fuel noCosts).1 c = some k) : Reach edges c k :=
  (bellmanFord_noCosts edges fuel).1 c k h

/-- **and minimal**: at the fixpoint no term of the class is cheaper. -/
theorem C07_optimal (edges : List Edge) (fuel c k : Nat)
    (hfix : (bellmanFord edges fuel noCosts).2 = true) (h : Reach edges c k) :
    ∃ k', (bellmanFord edges fuel noCosts).1 c = some k' ∧ k' ≤ k :=
  Stable.le_reach ((bellmanFord_noCosts edges fuel).2 hfix) h

/-- the recorded cost is exactly the minimum tree cost over the terms of the class -/
theorem C07_min (edges : List Edge) (fuel c k' : Nat)
    (hfix : (bellmanFord edges fuel noCosts).2 = true)
    (hk : (bellmanFord edges fuel noCosts).1 c = some k') :
    Reach edges c k' ∧ ∀ k, Reach edges c k → k' ≤ k :=
  min_of_sound_stable (bellmanFord_noCosts edges fuel).1 ((bellmanFord_noCosts edges fuel).2 hfix) hk

/-- **Extraction fails only when the class has no term at all** (under the same restrictions). -/
theorem C07_fail (edges : List Edge) (fuel c : Nat)
    (hfix : (bellmanFord edges fuel noCosts).2 = true) :
    (bellmanFord edges fuel noCosts).1 c = none ↔ ¬ ∃ k, Reach edges c k :=
  none_iff_of_sound_stable (bellmanFord_noCosts edges fuel).1 ((bellmanFord_noCosts edges fuel).2 hfix)

/-- subsumed rows never contribute: a derivation never uses one (by definition of `Reach`), and
`relax` ignores them -/
theorem C07_subsumed_ignored (costs : Costs) (e : Edge) (h : e.sub = true) : relax costs e = (costs, false) :=
  if_pos h

/-- non-vacuity: a cyclic class with a zero-cost edge and a tie, costs near saturation -/
example :
    let edges : List Edge := [⟨1, [], 0, false⟩, ⟨0, [0], 0, false⟩, ⟨cap, [0], 1, false⟩, ⟨5, [1, 1], 1, false⟩,
      ⟨0, [], 2, true⟩]
    let r := bellmanFord edges 10 noCosts
    r.2 = true ∧ r.1 0 = some 1 ∧ r.1 1 = some cap ∧ r.1 2 = none := by decide +kernel

end EgglogVerif.Extract
