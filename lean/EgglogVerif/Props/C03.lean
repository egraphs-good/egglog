/-
C03 — Semi-naive evaluation is observationally identical to naive evaluation: the delta
decomposition (`egglog-bridge/src/rule.rs`, `add_rules_from_cached`: one variant per atom,
"atoms before the focus read the OLD rows, the focus atom the NEW rows, atoms after it ALL rows").

Tuples of a join are modelled as lists choosing one row per atom; the join condition
(consistent substitution, guards) is an arbitrary predicate `ok` on such tuples, which is a
filter and therefore distributes over the decomposition.

Second half (from `SRule`): whole iterations over a database split into old and new rows.  What a naive
iteration derives from old + new is what it derives from old alone plus the delta variants
(`naiveOut_union`); so when the old part has been applied (`Applied`), `k` semi-naive iterations and `k`
naive ones hold the same facts (`semiRun_sameFacts`, `C03_run`).
-/
namespace EgglogVerif.Seminaive

variable {Row : Type}

/-- all ways of choosing one row per atom, in atom order -/
def product : List (List Row) → List (List Row)
  | [] => [[]]
  | rows :: rest => rows.flatMap fun r => (product rest).map (r :: ·)

/-- the N variants, as the code enumerates them -/
def deltaMatches : List (List Row) → List (List Row) → List (List Row)
  | [], [] => []
  | o :: os, n :: ns =>
    -- focus on the first atom: new × all …
    (n.flatMap fun r => (product ((os.zip ns).map fun p => p.1 ++ p.2)).map (r :: ·)) ++
    -- … or the first atom is old and the focus is further right
    (o.flatMap fun r => (deltaMatches os ns).map (r :: ·))
  | _, _ => []

/-- position `i` of tuple `t` holds a row of `rows[i]` -/
def At (rows : List (List Row)) (t : List Row) (i : Nat) : Prop :=
  ∃ r l, t[i]? = some r ∧ rows[i]? = some l ∧ r ∈ l

section
variable {l o n : List Row} {rows os ns L : List (List Row)} {x : Row} {t : List Row}

theorem mem_flatMap_cons : t ∈ l.flatMap (fun r => L.map (r :: ·)) ↔ ∃ x t', t = x :: t' ∧ x ∈ l ∧ t' ∈ L := by
  simp only [List.mem_flatMap, List.mem_map]
  constructor
  · rintro ⟨x, hx, t', ht', e⟩; exact ⟨x, t', e.symm, hx, ht'⟩
  · rintro ⟨x, t', e, hx, ht'⟩; exact ⟨x, hx, t', ht', e.symm⟩

theorem mem_product_cons : t ∈ product (l :: rows) ↔ ∃ x t', t = x :: t' ∧ x ∈ l ∧ t' ∈ product rows :=
  mem_flatMap_cons

theorem mem_deltaMatches_cons : t ∈ deltaMatches (o :: os) (n :: ns) ↔
    t ∈ product (n :: (os.zip ns).map fun p => p.1 ++ p.2) ∨ ∃ x t', t = x :: t' ∧ x ∈ o ∧ t' ∈ deltaMatches os ns :=
  List.mem_append.trans (or_congr Iff.rfl mem_flatMap_cons)

theorem at_cons_zero : At (l :: rows) (x :: t) 0 ↔ x ∈ l := by
  constructor
  · rintro ⟨_, _, h1, h2, h3⟩
    rw [← Option.some.inj h1, ← Option.some.inj h2] at h3
    exact h3
  · exact fun h => ⟨x, l, rfl, rfl, h⟩

end

theorem mem_product : ∀ (rows : List (List Row)) (t : List Row),
    t ∈ product rows ↔ t.length = rows.length ∧ ∀ i, i < rows.length → At rows t i := by
  intro rows
  induction rows with
  | nil =>
    intro t
    exact List.mem_singleton.trans
      ⟨fun h => ⟨congrArg List.length h, fun _ hi => absurd hi (Nat.not_lt_zero _)⟩, fun h => List.eq_nil_of_length_eq_zero h.1⟩
  | cons l rows ih =>
    intro t
    rw [mem_product_cons, List.length_cons, Nat.forall_lt_succ_left]
    constructor
    · rintro ⟨x, t', rfl, hx, ht'⟩
      obtain ⟨hl, hm⟩ := (ih t').mp ht'
      exact ⟨congrArg (· + 1) hl, at_cons_zero.mpr hx, hm⟩
    · rintro ⟨hl, h0, hm⟩
      cases t with
      | nil => cases hl
      | cons x t' => exact ⟨x, t', rfl, at_cons_zero.mp h0, (ih t').mpr ⟨Nat.succ.inj hl, hm⟩⟩

/-- **Nothing is lost and nothing is invented by the delta decomposition**: a tuple is produced by
some semi-naive variant iff it is a match over ALL rows that uses a NEW row at some position. -/
theorem C03_delta : ∀ (old new : List (List Row)) (t : List Row), old.length = new.length →
    (t ∈ deltaMatches old new ↔
      t ∈ product ((old.zip new).map fun p => p.1 ++ p.2) ∧ ∃ i, At new t i) := by
  intro old new t hl
  induction old generalizing new t with
  | nil =>
    obtain rfl := List.eq_nil_of_length_eq_zero hl.symm
    refine ⟨fun h => absurd h List.not_mem_nil, ?_⟩
    rintro ⟨_, _, _, l, _, h, _⟩
    exact absurd (h.symm.trans List.getElem?_nil) (Option.some_ne_none l)
  | cons o os ih =>
    obtain ⟨n, ns, rfl⟩ := List.exists_cons_of_length_eq_add_one hl.symm
    have ih := fun t' => ih ns t' (Nat.succ.inj hl)
    rw [mem_deltaMatches_cons, List.zip_cons_cons, List.map_cons, mem_product_cons, mem_product_cons]
    constructor
    · rintro (⟨x, t', rfl, hx, ht'⟩ | ⟨x, t', rfl, hx, ht'⟩)
      · exact ⟨⟨x, t', rfl, List.mem_append_right _ hx, ht'⟩, 0, at_cons_zero.mpr hx⟩
      · obtain ⟨hp, i, hi⟩ := (ih t').mp ht'
        exact ⟨⟨x, t', rfl, List.mem_append_left _ hx, hp⟩, i + 1, hi⟩
    · rintro ⟨⟨x, t', rfl, hx, ht'⟩, i, hi⟩
      -- focus on the first atom whenever its row is new, designated (`i = 0`) or not
      cases i with
      | zero => exact Or.inl ⟨x, t', rfl, at_cons_zero.mp hi, ht'⟩
      | succ i =>
        rcases List.mem_append.mp hx with hxo | hxn
        · exact Or.inr ⟨x, t', rfl, hxo, (ih t').mpr ⟨ht', i, hi⟩⟩
        · exact Or.inl ⟨x, t', rfl, hxn, ht'⟩

/-- the join condition is a filter: it commutes with the decomposition -/
theorem C03_delta_filtered (ok : List Row → Bool) (old new : List (List Row)) (t : List Row) (hl : old.length = new.length) :
    t ∈ (deltaMatches old new).filter ok ↔
      (t ∈ (product ((old.zip new).map fun p => p.1 ++ p.2)).filter ok ∧ ∃ i, At new t i) := by
  rw [List.mem_filter, List.mem_filter, C03_delta old new t hl, and_right_comm]

example : deltaMatches [[1], [10]] [[2], [20]] = [[2, 10], [2, 20], [1, 20]] := by decide +kernel

/-! ### whole iterations -/

/-- a rule: the table each body atom reads, the join condition, and the facts its head writes for a match -/
structure SRule (Row : Type) where
  atoms : List Nat
  ok : List Row → Bool
  head : List Row → List (Nat × Row)

/-- a database: the rows of each table (lists read as sets) -/
abbrev SDB (Row : Type) := Nat → List Row

def SDB.has (D : SDB Row) (f : Nat × Row) : Prop := f.2 ∈ D f.1

/-- facts written by one naive iteration of the rules over `D` -/
def naiveOut (rules : List (SRule Row)) (D : SDB Row) : List (Nat × Row) :=
  rules.flatMap fun r => ((product (r.atoms.map D)).filter r.ok).flatMap r.head

/-- facts written by one semi-naive iteration: only the delta variants -/
def semiOut (rules : List (SRule Row)) (old new : SDB Row) : List (Nat × Row) :=
  rules.flatMap fun r => ((deltaMatches (r.atoms.map old) (r.atoms.map new)).filter r.ok).flatMap r.head

section
variable {atoms : List Nat} {A B old new : SDB Row} {t : List Row}

theorem product_mono (h : ∀ a r, r ∈ A a → r ∈ B a) (ht : t ∈ product (atoms.map A)) :
    t ∈ product (atoms.map B) := by
  induction atoms generalizing t with
  | nil => exact ht
  | cons a as ih =>
    obtain ⟨x, t', rfl, hx, ht'⟩ := mem_product_cons.mp ht
    exact mem_product_cons.mpr ⟨x, t', rfl, h a x hx, ih ht'⟩

theorem product_old_or_new (ht : t ∈ product (atoms.map fun a => old a ++ new a)) :
    t ∈ product (atoms.map old) ∨ ∃ i, At (atoms.map new) t i := by
  induction atoms generalizing t with
  | nil => exact Or.inl ht
  | cons a as ih =>
    obtain ⟨x, t', rfl, hx, ht'⟩ := mem_product_cons.mp ht
    rcases List.mem_append.mp hx with hxo | hxn
    · exact (ih ht').imp (fun h => mem_product_cons.mpr ⟨x, t', rfl, hxo, h⟩) fun h => h.elim fun i h => ⟨i + 1, h⟩
    · exact Or.inr ⟨0, at_cons_zero.mpr hxn⟩

theorem product_union : t ∈ product (atoms.map fun a => old a ++ new a) ↔
    t ∈ product (atoms.map old) ∨ t ∈ deltaMatches (atoms.map old) (atoms.map new) := by
  have hΔ := C03_delta (atoms.map old) (atoms.map new) t (by simp)
  rw [List.zip_map', List.map_map] at hΔ
  exact ⟨fun ht => (product_old_or_new ht).imp_right fun hE => hΔ.mpr ⟨ht, hE⟩,
    fun h => h.elim (product_mono fun a r => List.mem_append_left _) fun h => (hΔ.mp h).1⟩

end

theorem mem_naiveOut {rules : List (SRule Row)} {D : SDB Row} {f : Nat × Row} :
    f ∈ naiveOut rules D ↔ ∃ r ∈ rules, ∃ t ∈ product (r.atoms.map D), r.ok t ∧ f ∈ r.head t := by
  simp only [naiveOut, List.mem_flatMap, List.mem_filter, and_assoc]

theorem naiveOut_union (rules : List (SRule Row)) (old new : SDB Row) (f : Nat × Row) :
    f ∈ naiveOut rules (fun a => old a ++ new a) ↔ f ∈ naiveOut rules old ∨ f ∈ semiOut rules old new := by
  simp only [mem_naiveOut, semiOut, List.mem_flatMap, List.mem_filter, and_assoc, product_union,
    or_and_right, and_or_left, exists_or]

/-- everything the rules derive from the OLD rows alone is already in the database -/
def Applied (rules : List (SRule Row)) (old new : SDB Row) : Prop :=
  ∀ f, f ∈ naiveOut rules old → f.2 ∈ old f.1 ++ new f.1

/-- **One iteration**: provided the matches over the old rows were applied before, the semi-naive
iteration writes — up to facts that are already present — exactly what the naive iteration over
the whole database writes: no match is lost, none is invented. -/
theorem C03_iteration (rules : List (SRule Row)) (old new : SDB Row) (hap : Applied rules old new) (f : Nat × Row) :
    (f ∈ semiOut rules old new ∨ f.2 ∈ old f.1 ++ new f.1) ↔
    (f ∈ naiveOut rules (fun a => old a ++ new a) ∨ f.2 ∈ old f.1 ++ new f.1) := by
  rw [naiveOut_union, or_assoc, or_iff_right_of_imp (Or.inr ∘ hap f)]

def addFacts (D : SDB Row) (fs : List (Nat × Row)) : SDB Row :=
  fun a => D a ++ (fs.filter (fun f => f.1 = a)).map (·.2)

theorem mem_map_snd_filter_fst (fs : List (Nat × Row)) (a : Nat) (r : Row) :
    r ∈ (fs.filter (fun f => f.1 = a)).map (·.2) ↔ (a, r) ∈ fs := by
  simp only [List.mem_map, List.mem_filter, decide_eq_true_eq]
  constructor
  · rintro ⟨⟨_, _⟩, ⟨hf, rfl⟩, rfl⟩; exact hf
  · exact fun h => ⟨(a, r), ⟨h, rfl⟩, rfl⟩

theorem mem_addFacts (D : SDB Row) (fs : List (Nat × Row)) (a : Nat) (r : Row) :
    r ∈ addFacts D fs a ↔ r ∈ D a ∨ (a, r) ∈ fs := by
  rw [addFacts, List.mem_append, mem_map_snd_filter_fst]

def naiveRun (rules : List (SRule Row)) : Nat → SDB Row → SDB Row
  | 0, D => D
  | k + 1, D => naiveRun rules k (addFacts D (naiveOut rules D))

/-- `k` semi-naive iterations on (old, new): the new rows become old, the facts just written new -/
def semiRun (rules : List (SRule Row)) : Nat → SDB Row × SDB Row → SDB Row × SDB Row
  | 0, s => s
  | k + 1, (old, new) =>
    semiRun rules k (fun a => old a ++ new a, fun a => ((semiOut rules old new).filter (fun f => f.1 = a)).map (·.2))

def SameFacts (A B : SDB Row) : Prop := ∀ a r, r ∈ A a ↔ r ∈ B a

theorem naiveOut_mono {rules : List (SRule Row)} {A B : SDB Row} (h : ∀ a r, r ∈ A a → r ∈ B a)
    {f : Nat × Row} (hf : f ∈ naiveOut rules A) : f ∈ naiveOut rules B := by
  obtain ⟨r, hr, t, ht, hf⟩ := mem_naiveOut.mp hf
  exact mem_naiveOut.mpr ⟨r, hr, t, product_mono h ht, hf⟩

theorem naiveOut_congr (rules : List (SRule Row)) {A B : SDB Row} (h : SameFacts A B) (f : Nat × Row) :
    f ∈ naiveOut rules A ↔ f ∈ naiveOut rules B :=
  ⟨naiveOut_mono fun a x => (h a x).mp, naiveOut_mono fun a x => (h a x).mpr⟩

/-- the invariant: the old rows have been applied, and old plus new rows are the naive database as a set -/
theorem semiRun_sameFacts (rules : List (SRule Row)) : ∀ (k : Nat) (old new D : SDB Row),
    Applied rules old new → SameFacts (fun a => old a ++ new a) D →
    SameFacts (fun a => (semiRun rules k (old, new)).1 a ++ (semiRun rules k (old, new)).2 a)
      (naiveRun rules k D) := by
  intro k
  induction k with
  | zero => intro old new D _ hD; exact hD
  | succ k ih =>
    intro old new D hap hD
    refine ih _ _ _ (fun f hf => ?_) (fun a r => ?_)
    · -- applied: the old part was, the delta is the new rows
      rcases (naiveOut_union rules old new f).mp hf with h | h
      · exact List.mem_append_left _ (hap f h)
      · exact List.mem_append_right _ ((mem_map_snd_filter_fst _ _ _).mpr h)
    · rw [mem_addFacts, ← hD a r, ← naiveOut_congr rules hD, List.mem_append, mem_map_snd_filter_fst, or_comm,
        C03_iteration rules old new hap (a, r), or_comm]

/-- **Every iteration of every schedule of single-ruleset runs**: from any split of a database into
old and new rows such that what the old rows derive has been applied, after any number `k` of
iterations the semi-naive engine and the naive engine hold exactly the same facts. -/
theorem C03_run (rules : List (SRule Row)) : ∀ (k : Nat) (old new : SDB Row), Applied rules old new →
    SameFacts (fun a => (semiRun rules k (old, new)).1 a ++ (semiRun rules k (old, new)).2 a)
      (naiveRun rules k (fun a => old a ++ new a)) :=
  fun k old new hap => semiRun_sameFacts rules k old new _ hap (fun _ _ => Iff.rfl)

/-- from a fresh database (everything new, nothing old) the hypothesis holds trivially whenever no
rule has an empty body (a rule without atoms would fire on the empty old database) -/
theorem C03_run_fresh (rules : List (SRule Row)) (hne : ∀ r ∈ rules, r.atoms ≠ []) (k : Nat) (D : SDB Row) :
    SameFacts (fun a => (semiRun rules k (fun _ => [], D)).1 a ++ (semiRun rules k (fun _ => [], D)).2 a)
      (naiveRun rules k D) := by
  refine semiRun_sameFacts rules k _ D D (fun f hf => ?_) (fun _ _ => Iff.rfl)
  obtain ⟨r, hr, t, ht, _⟩ := mem_naiveOut.mp hf
  obtain ⟨a, as, hra⟩ := List.exists_cons_of_ne_nil (hne r hr)
  rw [hra] at ht
  cases ht

end EgglogVerif.Seminaive
