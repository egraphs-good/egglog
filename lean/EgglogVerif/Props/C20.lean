/-
C20 — Single-threaded runs are reproducible (the part a model can carry).

A Lean model is a function, so "same program ⇒ same output" is trivially true of it; what can be
PROVED is that the places where the engine's output passes through an unordered collection are
insensitive to that collection's iteration order.  `print-size` collects `(name, size)` pairs out of
a hash map and sorts them by name (`src/lib.rs`, `lens.sort_by_key`); run reports sum per-rule
counters out of hash maps.  Names are abstracted to their rank (a `Nat` key).
-/
namespace EgglogVerif.Repro

abbrev Entry := Nat × Nat

def leKey (a b : Entry) : Bool := a.1 ≤ b.1

/-- `lens.sort_by_key(|(name, _)| name)` -/
def printSize (l : List Entry) : List Entry := l.mergeSort leKey

theorem printSize_sorted (l : List Entry) (hnd : (l.map (·.1)).Nodup) :
    (printSize l).Pairwise (fun a b => a.1 < b.1) := by
  have hle : (printSize l).Pairwise (fun a b => leKey a b = true) :=
    List.pairwise_mergeSort (le := leKey)
      (fun a b c h1 h2 => decide_eq_true (Nat.le_trans (of_decide_eq_true h1) (of_decide_eq_true h2)))
      (fun a b => by simp only [leKey, Bool.or_eq_true, decide_eq_true_eq]; exact Nat.le_total _ _) l
  have hne : (printSize l).Pairwise (fun a b => a.1 ≠ b.1) :=
    List.pairwise_map.mp (((List.mergeSort_perm l leKey).map _).nodup_iff.mpr hnd)
  exact hle.imp₂ (fun a b h1 h2 => Nat.lt_of_le_of_ne (of_decide_eq_true h1) h2) hne

/-- **`print-size` does not depend on the hash map's iteration order**: any two enumerations of the
same set of (distinctly named) functions print identically. -/
theorem C20_printSize (l₁ l₂ : List Entry) (h : l₁.Perm l₂) (hnd : (l₁.map (·.1)).Nodup) :
    printSize l₁ = printSize l₂ :=
  List.Perm.eq_of_pairwise (le := fun a b => a.1 < b.1) (fun _ _ _ _ h1 h2 => absurd h1 (Nat.lt_asymm h2))
    (printSize_sorted l₁ hnd) (printSize_sorted l₂ ((h.map _).nodup_iff.mp hnd))
    (((List.mergeSort_perm l₁ leKey).trans h).trans (List.mergeSort_perm l₂ leKey).symm)

/-- per-rule counters of a run report are summed when the per-iteration maps are merged
(`RunReport::union_counts`): the total for the rule `key` -/
def total (key : Nat) (l : List Entry) : Nat := (l.filter (·.1 = key)).foldl (fun s e => s + e.2) 0

/-- the total for a rule does not depend on the order in which the per-iteration maps are merged -/
theorem C20_report (key : Nat) (l₁ l₂ : List Entry) (h : l₁.Perm l₂) : total key l₁ = total key l₂ :=
  (h.filter _).foldl_eq' (fun _ _ _ _ _ => Nat.add_right_comm _ _ _) 0

example : printSize [(3, 10), (1, 5), (2, 7)] = printSize [(2, 7), (3, 10), (1, 5)] :=
  C20_printSize _ _ (by decide) (by decide)

end EgglogVerif.Repro
