import EgglogVerif.Model.CUF
/-
C17 (concurrent half) — the concurrent union-find under ANY interleaving.

Rely–guarantee over the shared forest (see Model/CUF.lean): between any two atomic accesses of an
operation an arbitrary number of atomic steps of other threads may happen (`EnvS`).  For every such run:

* `C17c_env_*`    — every atomic step keeps "parent ≤ child", never splits a class, never turns a
                    non-root back into a root (`compress` changes no representative, `link` merges
                    exactly two classes: `root_compress`, `root_link`);
* `C17c_find`     — `find_impl(x)` returns, at the instant of its last load, the representative of
                    `x`'s class; its own CAS steps are `compress` steps;
* `C17c_merge`    — `merge(l, r)` either finds `l` and `r` in one class at an instant inside the call
                    and returns its representative twice, or performs exactly one `link` at an instant
                    where they are in different classes, linking the root of one to a member of the other;
* `C17c_same_set` — `same_set(l, r)` answers what was true at an instant inside the call; `false` is
                    justified by the re-validation of the LEFT root;
* `C17c_root_min` — the representative is the smallest id of its class.
-/
namespace EgglogVerif.UF

def Same (f : Nat → Nat) (x y : Nat) : Prop := root f x = root f y

theorem Same.symm {f : Nat → Nat} {x y : Nat} (s : Same f x y) : Same f y x := Eq.symm s

theorem Same.trans {f : Nat → Nat} {x y z : Nat} (s : Same f x y) (t : Same f y z) : Same f x z := Eq.trans s t

/-! ### one atomic step -/

/-- both kinds of step redirect one pointer to a smaller id; the invariant and `Env.root_of_root`
need no more than that -/
theorem Env.eq_upd {f f' : Nat → Nat} (e : Env f f') : ∃ c g, g < c ∧ f' = upd f c g := by
  cases e with
  | compress c g hg _ e => exact ⟨c, g, hg, e⟩
  | link c q _ hq e => exact ⟨c, q, hq, e⟩

theorem C17c_env_inv {f f' : Nat → Nat} (h : FInv f) (e : Env f f') : FInv f' := by
  obtain ⟨c, g, hg, rfl⟩ := e.eq_upd
  exact h.upd (Nat.le_of_lt hg)

theorem Env.root_of_root {f f' : Nat → Nat} (e : Env f f') {x : Nat} (hx : f' x = x) : f x = x := by
  obtain ⟨c, g, hg, rfl⟩ := e.eq_upd
  by_cases hxc : x = c
  · rw [hxc, upd_self] at hx
    exact absurd hx (Nat.ne_of_lt hg)
  · rwa [upd_of_ne f g hxc] at hx

/-- a node that has a parent never becomes a root again -/
theorem C17c_env_nonroot {f f' : Nat → Nat} (e : Env f f') {x : Nat} (hx : f x ≠ x) : f' x ≠ x :=
  fun h => hx (e.root_of_root h)

/-- a compression step changes no representative -/
theorem C17c_env_compress {f : Nat → Nat} (h : FInv f) {c g : Nat} (hg : g < c) (hs : root f g = root f c) (x : Nat) :
    root (upd f c g) x = root f x := root_compress h hg hs x

/-- a link step sends exactly the class of the linked root to the class of its new parent -/
theorem C17c_env_link {f : Nat → Nat} (h : FInv f) {c q : Nat} (hc : f c = c) (hq : q < c) (x : Nat) :
    root (upd f c q) x = if root f x = c then root f q else root f x := root_link h hc hq x

/-- no step ever splits a class -/
theorem C17c_env_same {f f' : Nat → Nat} (h : FInv f) (e : Env f f') {x y : Nat} (s : Same f x y) : Same f' x y := by
  unfold Same at s ⊢
  cases e with
  | compress c g hg hs e => rw [e, C17c_env_compress h hg hs, C17c_env_compress h hg hs, s]
  | link c q hc hq e => rw [e, C17c_env_link h hc hq, C17c_env_link h hc hq, s]

/-! ### any number of steps -/

theorem EnvS.single {f g : Nat → Nat} (e : Env f g) : EnvS f g := by
  exact .tail (.refl f) e

theorem EnvS.trans {f g k : Nat → Nat} (e₁ : EnvS f g) (e₂ : EnvS g k) : EnvS f k := by
  induction e₂ with
  | refl => exact e₁
  | tail _ e ih => exact .tail ih e

theorem FInv.envS {f g : Nat → Nat} (h : FInv f) (e : EnvS f g) : FInv g := by
  induction e with
  | refl => exact h
  | tail _ e ih => exact C17c_env_inv ih e

theorem EnvS.root_of_root {f g : Nat → Nat} (e : EnvS f g) {x : Nat} (hx : g x = x) : f x = x := by
  induction e with
  | refl => exact hx
  | tail _ e ih => exact ih (e.root_of_root hx)

theorem EnvS.same {f g : Nat → Nat} (h : FInv f) (e : EnvS f g) {x y : Nat} (s : Same f x y) : Same g x y := by
  induction e with
  | refl => exact s
  | tail e₁ e ih => exact C17c_env_same (h.envS e₁) e ih

/-- **The representative is the smallest id of its class.** -/
theorem C17c_root_min {f : Nat → Nat} (h : FInv f) {x y : Nat} (s : Same f x y) : root f x ≤ y := by
  exact Nat.le_trans (Nat.le_of_eq s) (root_le h y)

/-! ### find -/

theorem cas_compress {f : Nat → Nat} {c g : Nat} (old : Nat) (hg : g < c) (hs : Same f g c) :
    EnvS f (cas f c old g).1 := by
  unfold cas
  split
  · exact .single (.compress c g hg hs rfl)
  · exact .refl f

/-- **`find_impl` under any interleaving**: the whole run is a sequence of legal atomic steps, and
at its last load the result is a root in the class of the start node — i.e. the representative. -/
theorem C17c_find {f f' : Nat → Nat} {cur res : Nat} (r : FindRun f cur f' res) (h : FInv f) :
    FInv f' ∧ EnvS f f' ∧ f' res = res ∧ Same f' res cur ∧ root f' cur = res := by
  induction r with
  | @done f f₁ f₂ cur e₁ e₂ hr =>
    have h₁ := h.envS e₁
    have s : Same f₂ (f₁ cur) cur := e₂.same h₁ (root_step h₁ cur)
    exact ⟨h₁.envS e₂, e₁.trans e₂, hr, s, (Eq.symm s).trans (root_of_fix hr)⟩
  | @iter f f₁ f₂ f₃ f' cur res e₁ e₂ hne e₃ _ ih =>
    have h₁ := h.envS e₁
    have h₂ := h₁.envS e₂
    -- the CAS is, if it succeeds, the compression `cur ↦ grand`: `grand` was the parent of `next` at
    -- `f₂` and `next` that of `cur` at `f₁`, and a class once formed stays together
    have s₁ : Same f₁ (f₁ cur) cur := root_step h₁ cur
    have s₃ : Same f₃ (f₂ (f₁ cur)) cur := (e₃.same h₂ (root_step h₂ _)).trans ((e₂.trans e₃).same h₁ s₁)
    have e₄ := cas_compress (f := f₃) (f₁ cur) (Nat.lt_of_lt_of_le (h₂.lt hne) (h₁ cur)) s₃
    have e₅ := e₃.trans e₄
    obtain ⟨i, e', hr, s, -⟩ := ih (h₂.envS e₅)
    have s' := s.trans ((e₂.trans (e₅.trans e')).same h₁ s₁)
    exact ⟨i, (e₁.trans e₂).trans (e₅.trans e'), hr, s', (Eq.symm s').trans (root_of_fix hr)⟩

/-! ### merge and same_set -/

/-- the common start of `merge` and `same_set`: from the last load of the second `find` on, `l` and
`r` may be replaced by the ids found for them; `r'` is a root at that load (`l'` need not be one any
more) -/
theorem find_both {l r l' r' : Nat} {f fa fb : Nat → Nat} (h : FInv f) (fl : FindRun f l fa l')
    (fr : FindRun fa r fb r') :
    FInv fb ∧ EnvS f fb ∧ fb r' = r' ∧ ∀ g, EnvS fb g → root g l = root g l' ∧ root g r = root g r' := by
  obtain ⟨ha, ea, -, sa, -⟩ := C17c_find fl h
  obtain ⟨hb, eb, hr, sb, -⟩ := C17c_find fr ha
  exact ⟨hb, ea.trans eb, hr, fun g eg => ⟨((eb.trans eg).same ha sa).symm, (eg.same hb sb).symm⟩⟩

theorem linked_post {g : Nat → Nat} (hg : FInv g) {l r l' r' c m : Nat} (hl : root g l = root g l')
    (hr : root g r = root g r') (hc : g c = c) (lt : m < c) (hm : (c = l' ∧ m = r') ∨ (c = r' ∧ m = l')) :
    ¬ Same g l r ∧ ((Same g c l ∧ Same g m r) ∨ (Same g c r ∧ Same g m l)) := by
  -- the root `c` is the least id of its class, so `m` is not in it
  have ns : ¬ Same g c m := fun s => Nat.not_le_of_lt lt (root_of_fix hc ▸ C17c_root_min hg s)
  rcases hm with ⟨rfl, rfl⟩ | ⟨rfl, rfl⟩
  · exact ⟨fun s => ns (hl.symm.trans (s.trans hr)), .inl ⟨hl.symm, hr.symm⟩⟩
  · exact ⟨fun s => ns (hr.symm.trans (s.symm.trans hl)), .inr ⟨hr.symm, hl.symm⟩⟩

/-- **`merge` under any interleaving.**  There is an instant `g` inside the call such that either
no link happened and `l`, `r` were in one class at `g` with representative `p` (returned twice), or
the call performed exactly the link `c ↦ p` at `g`, where `c` was a root, `l` and `r` were in
different classes, and `c`, `p` lie one in each of them. -/
theorem C17c_merge {l r : Nat} {f f' : Nat → Nat} {res : Nat × Nat} (m : MergeRun l r f f' res) (h : FInv f) :
    FInv f' ∧ EnvS f f' ∧ ∃ g, EnvS f g ∧ FInv g ∧
      ((res.1 = res.2 ∧ f' = g ∧ root g l = res.1 ∧ root g r = res.1) ∨
       (res.1 < res.2 ∧ f' = upd g res.2 res.1 ∧ g res.2 = res.2 ∧ ¬ Same g l r ∧
          ((Same g res.2 l ∧ Same g res.1 r) ∨ (Same g res.2 r ∧ Same g res.1 l)))) := by
  induction m with
  | @same l r f fa fb l' r' fl fr e =>
    obtain ⟨hb, eb, hr', tr⟩ := find_both h fl fr
    obtain ⟨hl, hr⟩ := tr fb (.refl fb)
    rw [← e] at hr hr'
    exact ⟨hb, eb, fb, eb, hb, .inl ⟨rfl, rfl, hl.trans (root_of_fix hr'), hr.trans (root_of_fix hr')⟩⟩
  | @linked l r f fa fb fc l' r' fl fr ne ec hc =>
    obtain ⟨hb, eb, -, tr⟩ := find_both h fl fr
    obtain ⟨hl, hr⟩ := tr fc ec
    have hfc := hb.envS ec
    obtain ⟨lt, hm⟩ := max_min_cases ne
    exact ⟨hfc.upd (Nat.le_of_lt lt), (eb.trans ec).tail (.link _ _ hc lt rfl), fc, eb.trans ec, hfc,
      .inr ⟨lt, rfl, hc, linked_post hfc hl hr hc lt hm⟩⟩
  | @retry l r f fa fb fc f' l' r' res fl fr _ ec _ _ ih =>
    obtain ⟨hb, eb, -, tr⟩ := find_both h fl fr
    obtain ⟨h', e', g, eg, hg, post⟩ := ih (hb.envS ec)
    obtain ⟨hl, hr⟩ := tr g (ec.trans eg)
    refine ⟨h', (eb.trans ec).trans e', g, (eb.trans ec).trans eg, hg, ?_⟩
    simpa only [Same, hl, hr] using post

/-- **`same_set` under any interleaving** answers what was true at an instant inside the call. -/
theorem C17c_same_set {l r : Nat} {f f' : Nat → Nat} {b : Bool} (s : SameRun l r f f' b) (h : FInv f) :
    FInv f' ∧ EnvS f f' ∧ ∃ g, EnvS f g ∧ EnvS g f' ∧ FInv g ∧ (b = true ↔ Same g l r) := by
  induction s with
  | @yes l r f fa fb l' r' fl fr e =>
    obtain ⟨hb, eb, -, tr⟩ := find_both h fl fr
    obtain ⟨hl, hr⟩ := tr fb (.refl fb)
    exact ⟨hb, eb, fb, eb, .refl fb, hb, iff_of_true rfl (hl.trans ((congrArg (root fb) e).trans hr.symm))⟩
  | @no l r f fa fb fc l' r' fl fr ne ec hl' =>
    -- the instant is `fb`: `r'` is a root there, and so is `l'`, since it still is one in `fc`
    obtain ⟨hb, eb, hr', tr⟩ := find_both h fl fr
    obtain ⟨hl, hr⟩ := tr fb (.refl fb)
    refine ⟨hb.envS ec, eb.trans ec, fb, eb, ec, hb, iff_of_false Bool.false_ne_true fun s => ne ?_⟩
    rwa [Same, hl, hr, root_of_fix (ec.root_of_root hl'), root_of_fix hr'] at s
  | @retry l r f fa fb fc f' l' r' b fl fr _ ec _ _ ih =>
    obtain ⟨hb, eb, -, tr⟩ := find_both h fl fr
    obtain ⟨h', e', g, eg, eg', hg, post⟩ := ih (hb.envS ec)
    obtain ⟨hl, hr⟩ := tr g (ec.trans eg)
    refine ⟨h', (eb.trans ec).trans e', g, (eb.trans ec).trans eg, eg', hg, ?_⟩
    simpa only [Same, hl, hr] using post

/-! ### the executable single-thread instance is such a run -/

/-- no interference, and the first load yields a root -/
theorem FindRun.quiet {f : Nat → Nat} {x : Nat} (h : f (f x) = f x) : FindRun f x f (f x) :=
  .done (.refl f) (.refl f) h

/-- no interference, and the first load yields a non-root: the CAS succeeds -/
theorem FindRun.step {f f' : Nat → Nat} {x res : Nat} (hne : f (f x) ≠ f x)
    (r : FindRun (upd f x (f (f x))) (f x) f' res) : FindRun f x f' res :=
  .iter (.refl f) (.refl f) hne (.refl f) (by rw [cas, if_pos rfl]; exact r)

/-- the executable `cFindLoop` (what the correspondence harness compares with the real
`ConcurrentUnionFind` driven from one thread) is a `FindRun` without interference -/
theorem C17c_seq_find : ∀ (fuel : Nat) (p : Parents) (cur : Nat), AInv p → cur < fuel → cur < p.size →
    FindRun (par p) cur (par (cFindLoop fuel p cur).1) (cFindLoop fuel p cur).2 ∧
      AInv (cFindLoop fuel p cur).1 ∧ (cFindLoop fuel p cur).1.size = p.size := by
  intro fuel
  induction fuel with
  | zero => intro p cur _ hc; exact absurd hc (Nat.not_lt_zero _)
  | succ n ih =>
    intro p cur h hc hsz
    rw [cFindLoop]
    by_cases hr : par p cur = par p (par p cur)
    · rw [if_pos hr]
      exact ⟨.quiet hr.symm, h, rfl⟩
    · rw [if_neg hr, if_pos rfl]
      have hlt : par p cur < cur := h.lt fun e => hr (by rw [e, e])
      obtain ⟨run, i, sz⟩ := ih (p.setIfInBounds cur (par p (par p cur))) (par p cur)
        (h.set hsz (Nat.le_trans (h _) (h _))) (Nat.lt_of_lt_of_le hlt (Nat.le_of_lt_succ hc))
        (by rw [Array.size_setIfInBounds]; exact Nat.lt_trans hlt hsz)
      rw [par_set hsz] at run
      exact ⟨.step (Ne.symm hr) run, i, sz.trans Array.size_setIfInBounds⟩

/-! ### non-vacuity -/

/-- a run of `merge 1 2` on the identity forest with another thread linking `2 ↦ 0` just before
our CAS: the CAS fails, the retry finds `0` and `1` and links `1 ↦ 0`. -/
example : ∃ f' res, MergeRun 1 2 id f' res ∧ res = (0, 1) := by
  exact ⟨_, _, .retry (fc := upd id 2 0) (.quiet (x := 1) rfl) (.quiet (x := 2) rfl) (by decide)
    (.single (.link 2 0 rfl (by decide) rfl)) (by decide)
    (.linked (fc := upd id 2 0) (.quiet (x := 1) rfl) (.quiet (x := 2) rfl) (by decide) (.refl _) rfl), rfl⟩

end EgglogVerif.UF
