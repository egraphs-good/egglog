/-
C02 (plan level) — variable-at-a-time evaluation (generic join) in ANY variable order computes
exactly the satisfying assignments.

`core-relations/src/free_join` evaluates a conjunctive query one variable (or one group of
variables) at a time: at each stage the candidate values of the next variable are those for which
every atom still has a row agreeing with the partial binding (the intersection of the atoms'
projections), and the stages are ordered by the planner (`plan_gj`, `plan_free_join`, dynamic
re-sorting by size).  `GJ` below is that scheme, stage by stage, for an arbitrary order `vs`.
The theorems say the result does not depend on the order: it is the set of assignments of `vs`
under which every atom has a matching row — the same denotation as the atom-at-a-time matcher of
`C02_matches`.  (Relational model: the enumeration order of candidates, indexes and batching are
abstracted; this file is not tied to the code by a correspondence run — the plan-variant
comparison of the C02 check is.)
-/
namespace EgglogVerif.GJ

abbrev Asg := Nat → Option Int

def upd (σ : Asg) (v : Nat) (x : Int) : Asg := fun w => if w = v then some x else σ w

structure Atom where
  vars : List Nat
  rows : List (List Int)

/-- `row` agrees with the partial assignment `σ` on the variables of the atom that `σ` binds -/
def Consistent (σ : Asg) (vars : List Nat) (row : List Int) : Prop :=
  vars.length = row.length ∧ ∀ i (h1 : i < vars.length) (h2 : i < row.length) y, σ vars[i] = some y → row[i] = y

/-- the atom still has a row agreeing with `σ` -/
def AtomOk (σ : Asg) (a : Atom) : Prop := ∃ row ∈ a.rows, Consistent σ a.vars row

/-- generic join over the variable order `vs`: bind the next variable to a value under which every
atom still has an agreeing row, continue with the rest -/
inductive Run (atoms : List Atom) : List Nat → Asg → Asg → Prop
  | done (σ : Asg) : Run atoms [] σ σ
  | bind {v : Nat} {vs : List Nat} {σ σ' : Asg} (x : Int) :
      (∀ a ∈ atoms, AtomOk (upd σ v x) a) → Run atoms vs (upd σ v x) σ' → Run atoms (v :: vs) σ σ'

def empty : Asg := fun _ => none

def BindsExactly (σ : Asg) (vs : List Nat) : Prop := ∀ w, (σ w).isSome ↔ w ∈ vs

/-- every atom has a row that IS the image of its variables under `σ` -/
def Satisfies (σ : Asg) (a : Atom) : Prop := ∃ row ∈ a.rows, a.vars.map σ = row.map some

theorem upd_self (σ : Asg) (v : Nat) (x : Int) : upd σ v x v = some x := if_pos rfl
theorem upd_other (σ : Asg) {v w : Nat} (x : Int) (h : w ≠ v) : upd σ v x w = σ w := if_neg h

theorem bindsExactly_empty : BindsExactly empty [] := fun _ => ⟨nofun, nofun⟩

theorem bindsExactly_upd {σ : Asg} {vs : List Nat} (h : BindsExactly σ vs) (v : Nat) (x : Int) :
    BindsExactly (upd σ v x) (v :: vs) := by
  intro w
  by_cases hw : w = v
  · subst hw; rw [upd_self]; exact ⟨fun _ => List.mem_cons_self, fun _ => rfl⟩
  · rw [upd_other σ x hw, h w]; exact ⟨List.mem_cons_of_mem _, fun h => (List.mem_cons.mp h).resolve_left hw⟩

/-- a repeated variable is simply bound again: no hypothesis on the order is needed -/
theorem run_binds {atoms : List Atom} {vs bound : List Nat} {σ σ' : Asg} (r : Run atoms vs σ σ')
    (h : BindsExactly σ bound) : BindsExactly σ' (vs ++ bound) := by
  induction r generalizing bound with
  | done σ => exact h
  | bind x _ _ ih => exact fun w => (ih (bindsExactly_upd h _ x) w).trans List.perm_middle.mem_iff

/-- every atom is still consistent at the end: consistency was checked at the last stage, or the
order was empty and it is a hypothesis -/
theorem run_ok {atoms : List Atom} {vs : List Nat} {σ σ' : Asg} (r : Run atoms vs σ σ')
    (h0 : vs ≠ [] ∨ ∀ a ∈ atoms, AtomOk σ a) : ∀ a ∈ atoms, AtomOk σ' a := by
  induction r with
  | done σ => exact h0.resolve_left fun h => h rfl
  | bind x hok _ ih => exact ih (Or.inr hok)

theorem consistent_total {σ : Asg} {vars : List Nat} {row : List Int} (h : Consistent σ vars row)
    (hb : ∀ v ∈ vars, (σ v).isSome) : vars.map σ = row.map some := by
  obtain ⟨hl, hc⟩ := h
  refine List.ext_getElem (by simp [hl]) fun i h1 h2 => ?_
  have hi : i < vars.length := List.length_map σ ▸ h1
  obtain ⟨y, hy⟩ := Option.isSome_iff_exists.mp (hb vars[i] (List.getElem_mem hi))
  rw [List.getElem_map, List.getElem_map, hy, hc i hi (hl ▸ hi) y hy]

theorem Satisfies.atomOk {σ : Asg} {a : Atom} (h : Satisfies σ a) : AtomOk σ a := by
  obtain ⟨row, hrow, he⟩ := h
  have hl : a.vars.length = row.length := by rw [← List.length_map (f := σ), he, List.length_map]
  refine ⟨row, hrow, hl, fun i h1 h2 y hy => ?_⟩
  have := List.getElem_of_eq he (by rw [List.length_map]; exact h1)
  rw [List.getElem_map, List.getElem_map, hy] at this
  exact (Option.some.inj this).symm

theorem gj_sound {atoms : List Atom} {vs : List Nat} {σ' : Asg} (r : Run atoms vs empty σ')
    (hne : vs ≠ [] ∨ ∀ a ∈ atoms, AtomOk empty a) :
    BindsExactly σ' vs ∧ ∀ a ∈ atoms, (∀ v ∈ a.vars, v ∈ vs) → Satisfies σ' a := by
  have hb : BindsExactly σ' vs := List.append_nil vs ▸ run_binds r bindsExactly_empty
  refine ⟨hb, fun a ha hv => ?_⟩
  obtain ⟨row, hrow, hc⟩ := run_ok r hne a ha
  exact ⟨row, hrow, consistent_total hc fun v hv' => (hb v).mpr (hv v hv')⟩

/-- **Soundness for every variable order**: every result binds exactly the variables of the order
and satisfies every atom whose variables are among them. -/
theorem C02_gj_sound {atoms : List Atom} {vs : List Nat} {σ' : Asg} (r : Run atoms vs empty σ') (hnd : vs.Nodup)
    (hne : vs ≠ [] ∨ ∀ a ∈ atoms, AtomOk empty a) :
    BindsExactly σ' vs ∧ ∀ a ∈ atoms, (∀ v ∈ a.vars, v ∈ vs) → Satisfies σ' a :=
  gj_sound r hne

def restrict (τ : Nat → Int) (bound : List Nat) : Asg := fun w => if w ∈ bound then some (τ w) else none

theorem restrict_eq_some {τ : Nat → Int} {bound : List Nat} {w : Nat} {y : Int} :
    restrict τ bound w = some y ↔ w ∈ bound ∧ τ w = y := by
  unfold restrict
  split <;> simp [*]

theorem consistent_restrict (τ : Nat → Int) (bound vars : List Nat) :
    Consistent (restrict τ bound) vars (vars.map τ) := by
  refine ⟨(List.length_map _).symm, fun i h1 h2 y hy => ?_⟩
  rw [List.getElem_map]
  exact (restrict_eq_some.mp hy).2

theorem bindsExactly_restrict (τ : Nat → Int) (bound : List Nat) : BindsExactly (restrict τ bound) bound := by
  intro w
  unfold restrict
  split <;> simp [*]

theorem AtomOk.mono {σ₀ σ : Asg} {a : Atom} (hle : ∀ w y, σ₀ w = some y → σ w = some y) (h : AtomOk σ a) :
    AtomOk σ₀ a := by
  obtain ⟨row, hrow, hl, hc⟩ := h
  exact ⟨row, hrow, hl, fun i h1 h2 y hy => hc i h1 h2 y (hle _ y hy)⟩

/-- The converse of `run_binds` and `run_ok`: each variable is bound to its value under `σ`, and the
stage's check passes because fewer bindings constrain less.  The atoms' variables need not be covered. -/
theorem run_complete {atoms : List Atom} {σ : Asg} (hok : ∀ a ∈ atoms, AtomOk σ a) :
    ∀ (vs bound : List Nat) (σ₀ : Asg), (∀ w y, σ₀ w = some y → σ w = some y) → BindsExactly σ₀ bound →
      BindsExactly σ (vs ++ bound) → Run atoms vs σ₀ σ := by
  intro vs
  induction vs with
  | nil =>
    intro bound σ₀ hle h0 hb
    have : σ = σ₀ := funext fun w => by
      cases h : σ₀ w with
      | some y => exact hle w y h
      | none => simpa [h] using (hb w).trans (h0 w).symm
    exact this ▸ Run.done _
  | cons v vs ih =>
    intro bound σ₀ hle h0 hb
    obtain ⟨x, hx⟩ := Option.isSome_iff_exists.mp ((hb v).mpr List.mem_cons_self)
    have hle' : ∀ w y, upd σ₀ v x w = some y → σ w = some y := fun w y h => by
      by_cases hw : w = v
      · subst hw; exact hx.trans ((upd_self σ₀ w x).symm.trans h)
      · exact hle w y ((upd_other σ₀ x hw).symm.trans h)
    exact Run.bind x (fun a ha => (hok a ha).mono hle')
      (ih _ _ hle' (bindsExactly_upd h0 v x) fun w => (hb w).trans List.perm_middle.mem_iff.symm)

/-- **Completeness for every variable order**: every total assignment that satisfies all atoms is
found, whatever the order. -/
theorem C02_gj_complete (atoms : List Atom) (τ : Nat → Int) (hsat : ∀ a ∈ atoms, a.vars.map τ ∈ a.rows) :
    ∀ (vs bound : List Nat), Run atoms vs (restrict τ bound) (restrict τ (vs.reverse ++ bound)) := by
  intro vs bound
  refine run_complete (fun a ha => ⟨_, hsat a ha, consistent_restrict τ _ a.vars⟩) vs bound _ (fun w y h => ?_)
    (bindsExactly_restrict τ bound) fun w => (bindsExactly_restrict τ _ w).trans (by simp)
  rw [restrict_eq_some] at h ⊢
  exact ⟨List.mem_append_right _ h.1, h.2⟩

/-- **Order independence**: for two orders of the same variables the results coincide (as
assignments), since both are exactly the satisfying assignments. -/
theorem C02_gj_order_independent (atoms : List Atom) (vs ws : List Nat) (hv : vs.Nodup) (hw : ws.Nodup)
    (hperm : ∀ x, x ∈ vs ↔ x ∈ ws) (hcover : ∀ a ∈ atoms, ∀ v ∈ a.vars, v ∈ vs) (hne : vs ≠ [])
    (σ' : Asg) (r : Run atoms vs empty σ') : Run atoms ws empty σ' :=
  run_complete (run_ok r (Or.inl hne)) ws [] empty nofun bindsExactly_empty fun w =>
    (run_binds r bindsExactly_empty w).trans (by rw [List.append_nil, List.append_nil]; exact hperm w)

/-- non-vacuity: the triangle query R(x,y), S(y,z), T(x,z) in the order z, x, y -/
example : Run [⟨[0, 1], [[1, 2], [1, 3]]⟩, ⟨[1, 2], [[2, 5], [3, 6]]⟩, ⟨[0, 2], [[1, 5]]⟩] [2, 0, 1] empty
    (upd (upd (upd empty 2 5) 0 1) 1 2) := by
  refine run_complete (fun a ha => Satisfies.atomOk ?_) [2, 0, 1] [] empty nofun bindsExactly_empty fun w =>
    (bindsExactly_upd (bindsExactly_upd (bindsExactly_upd bindsExactly_empty 2 5) 0 1) 1 2 w).trans
      (List.mem_reverse (as := [2, 0, 1]))
  revert a
  unfold Satisfies
  decide +kernel

/-! ### tree decomposition: replacing a bag by its projection onto its public variables -/

/-- a sub-query (a bag of atoms, a materialisation …) as a predicate on total assignments -/
abbrev Q := (Nat → Int) → Prop

def DependsOn (A : Q) (V : List Nat) : Prop := ∀ τ τ', (∀ v ∈ V, τ v = τ' v) → (A τ ↔ A τ')

/-- projection of `A` onto the variables `P` (what a bag materialises and sends on) -/
def proj (P : List Nat) (A : Q) : Q := fun τ => ∃ τ', (∀ v ∈ P, τ' v = τ v) ∧ A τ'

def Answers (Out : List Nat) (A : Q) : Q := fun τ => ∃ τ', (∀ v ∈ Out, τ' v = τ v) ∧ A τ'

theorem dependsOn_proj (P : List Nat) (A : Q) : DependsOn (proj P A) P := by
  intro τ τ' h
  constructor
  · rintro ⟨t, ht, ha⟩; exact ⟨t, fun v hv => (ht v hv).trans (h v hv), ha⟩
  · rintro ⟨t, ht, ha⟩; exact ⟨t, fun v hv => (ht v hv).trans (h v hv).symm, ha⟩

/-- **A bag may be replaced by its projection onto its PUBLIC variables** — those it shares with
the rest of the query or with the output — without changing the answers; which variables must be
public is exactly this condition (a variable wrongly treated as private loses the join on it). -/
theorem C02_bag_projection (A B : Q) (VA VB Out P : List Nat) (hA : DependsOn A VA) (hB : DependsOn B VB)
    (hP : ∀ v, v ∈ VA → (v ∈ VB ∨ v ∈ Out) → v ∈ P) (τ : Nat → Int) :
    Answers Out (fun t => A t ∧ B t) τ ↔ Answers Out (fun t => proj P A t ∧ B t) τ := by
  constructor
  · rintro ⟨t, ht, ha, hb⟩
    exact ⟨t, ht, ⟨t, fun _ _ => rfl, ha⟩, hb⟩
  · rintro ⟨t, ht, ⟨t2, ht2, ha⟩, hb⟩
    -- glue: `t2` on the variables of A, `t` elsewhere; the two agree on the public variables of A
    have glue : ∀ v, v ∈ VB ∨ v ∈ Out → (if v ∈ VA then t2 v else t v) = t v := fun v hv => by
      by_cases hva : v ∈ VA
      · exact (if_pos hva).trans (ht2 v (hP v hva hv))
      · exact if_neg hva
    exact ⟨fun v => if v ∈ VA then t2 v else t v, fun v hv => (glue v (Or.inr hv)).trans (ht v hv),
      (hA _ t2 fun v hv => if_pos hv).mpr ha, (hB _ t fun v hv => glue v (Or.inl hv)).mpr hb⟩

theorem answers_congr {Out : List Nat} {A B : Q} (h : ∀ t, A t ↔ B t) (τ : Nat → Int) :
    Answers Out A τ ↔ Answers Out B τ :=
  exists_congr fun t => and_congr_right fun _ => h t

theorem DependsOn.and {A B : Q} {VA VB : List Nat} (hA : DependsOn A VA) (hB : DependsOn B VB) :
    DependsOn (fun t => A t ∧ B t) (VA ++ VB) := fun t t' h =>
  and_congr (hA t t' fun v hv => h v (List.mem_append_left _ hv)) (hB t t' fun v hv => h v (List.mem_append_right _ hv))

structure Bag where
  A : Q
  V : List Nat      -- its variables
  P : List Nat      -- the variables it keeps in its materialisation

theorem dependsOn_bags {bs : List Bag} (h : ∀ b ∈ bs, DependsOn b.A b.V) :
    DependsOn (fun t => ∀ b ∈ bs, b.A t) (bs.flatMap (·.V)) := fun t t' ht =>
  forall₂_congr fun b hb => h b hb t t' fun v hv => ht v (List.mem_flatMap.mpr ⟨b, hb, hv⟩)

/-- **Every bag at once**: given a decomposition into bags each of which keeps (at least) the
variables it shares with another bag, with the remainder of the query or with the output, joining
the bags' projections gives the same answers as joining the bags. -/
theorem C02_decomposition (Out : List Nat) : ∀ (bags : List Bag) (Rest : Q) (VR : List Nat), DependsOn Rest VR →
    (∀ b ∈ bags, DependsOn b.A b.V) → (∀ b ∈ bags, ∀ v ∈ b.P, v ∈ b.V) →
    bags.Pairwise (fun b c => ∀ v, v ∈ b.V → v ∈ c.V → v ∈ b.P ∧ v ∈ c.P) →
    (∀ b ∈ bags, ∀ v, v ∈ b.V → (v ∈ VR ∨ v ∈ Out) → v ∈ b.P) →
    ∀ τ, Answers Out (fun t => Rest t ∧ ∀ b ∈ bags, b.A t) τ ↔ Answers Out (fun t => Rest t ∧ ∀ b ∈ bags, proj b.P b.A t) τ := by
  intro bags
  induction bags with
  | nil => intro Rest VR _ _ _ _ _ τ; exact answers_congr (fun t => by simp) τ
  | cons b bs ih =>
    intro Rest VR hR hdep hsub hpw hpub τ
    rw [List.pairwise_cons] at hpw
    have hb := List.mem_cons_self (a := b) (l := bs)
    have hbs := fun c (hc : c ∈ bs) => List.mem_cons_of_mem b hc
    -- replace `b` by its projection against everything else, then the other bags with
    -- `Rest ∧ proj b` as the remainder
    calc Answers Out (fun t => Rest t ∧ ∀ c ∈ b :: bs, c.A t) τ
      _ ↔ Answers Out (fun t => b.A t ∧ (Rest t ∧ ∀ c ∈ bs, c.A t)) τ :=
        answers_congr (fun t => by rw [List.forall_mem_cons]; exact and_left_comm) τ
      _ ↔ Answers Out (fun t => proj b.P b.A t ∧ (Rest t ∧ ∀ c ∈ bs, c.A t)) τ := by
        refine C02_bag_projection b.A _ b.V (VR ++ bs.flatMap (·.V)) Out b.P (hdep b hb)
          (hR.and (dependsOn_bags fun c hc => hdep c (hbs c hc))) (fun v hv hor => ?_) τ
        -- regrouped as `(v ∈ VR ∨ v ∈ Out) ∨ v ∈ another bag`, the first is the premise of `hpub`
        refine (or_right_comm.mp (hor.imp_left List.mem_append.mp)).elim (hpub b hb v hv) fun h => ?_
        obtain ⟨c, hc, hvc⟩ := List.mem_flatMap.mp h
        exact (hpw.1 c hc v hv hvc).1
      _ ↔ Answers Out (fun t => (Rest t ∧ proj b.P b.A t) ∧ ∀ c ∈ bs, c.A t) τ :=
        answers_congr (fun t => and_left_comm.trans and_assoc.symm) τ
      _ ↔ Answers Out (fun t => (Rest t ∧ proj b.P b.A t) ∧ ∀ c ∈ bs, proj c.P c.A t) τ := by
        refine ih _ (VR ++ b.P) (hR.and (dependsOn_proj b.P b.A)) (fun c hc => hdep c (hbs c hc))
          (fun c hc => hsub c (hbs c hc)) hpw.2 (fun c hc v hv hor => ?_) τ
        exact (or_right_comm.mp (hor.imp_left List.mem_append.mp)).elim (hpub c (hbs c hc) v hv)
          fun h => (hpw.1 c hc v (hsub b hb v h) hv).2
      _ ↔ Answers Out (fun t => Rest t ∧ ∀ c ∈ b :: bs, proj c.P c.A t) τ :=
        answers_congr (fun t => by rw [List.forall_mem_cons]; exact and_assoc) τ

end EgglogVerif.GJ
