import EgglogVerif.Lemmas.Merge
/-
C05 — A function's value is the merge of everything ever written to its key.

All statements are for EVERY merge function `m` with the stated algebraic laws, every key and
value type with decidable equality, every list of writes (any length); the initial table is arbitrary
where a `t` appears and empty in `C05_serial`, `C05_value`, `C05_rebuild` and `C05_nomerge_conflict`.
-/
set_option linter.unusedSectionVars false
namespace EgglogVerif.Merge

variable {K V : Type} [DecidableEq K] [DecidableEq V]

/-- serial insertion into an empty table leaves, at every key, the fold of the merge over the
values written to that key in arrival order (no law needed). -/
theorem C05_serial (m : V → V → V) (ws : List (K × V)) (k : K) :
    serialInsert m empty ws k = specVal m ws k :=
  serialInsert_apply m empty ws k

/-- the specification does not depend on the ORDER of the writes (any permutation). -/
theorem C05_perm {m : V → V → V} (h : ACI m) {ws ws' : List (K × V)} (p : ws.Perm ws') (k : K) :
    specVal m ws k = specVal m ws' k :=
  foldVals_perm h ((p.filter _).map _)

/-- nor on how the writes are BATCHED into successive flushes (commands, rule iterations). -/
theorem C05_batch (m : V → V → V) (t : Tbl K V) (ws₁ ws₂ : List (K × V)) :
    serialInsert m (serialInsert m t ws₁) ws₂ = serialInsert m t (ws₁ ++ ws₂) :=
  List.foldl_append.symm

/-- duplicates of a write are absorbed (idempotence). -/
theorem C05_dup {m : V → V → V} (h : ACI m) (t : Tbl K V) (kv : K × V) (k : K) :
    serialInsert m t [kv, kv] k = serialInsert m t [kv] k := by
  show write m (write m t kv) kv k = write m t kv k
  by_cases hk : k = kv.1
  · simp only [write, if_pos hk]
    cases t k with
    | none => exact congrArg some (h.idem _)
    | some c => exact congrArg some ((h.assoc _ _ _).trans (congrArg _ (h.idem _)))
  · simp only [write, if_neg hk]

/-- the staged path (`StagedOutputs` + flush, i.e. `parallel_insert` on one shard): folding the
in-batch collisions first and merging the result into the table gives what serial insertion
gives (associativity is all that is needed). -/
theorem C05_staged {m : V → V → V} (hassoc : ∀ a b c, m (m a b) c = m a (m b c))
    (t : Tbl K V) (ws : List (K × V)) (k : K) :
    stagedInsert m t ws k = serialInsert m t ws k :=
  (stagedInsert_apply hassoc t ws k).trans (serialInsert_apply m t ws k).symm

/-- the per-shard parallel path: any shard assignment, shards processed in any duplicate-free
order, gives the serial result at every key whose shard is processed. -/
theorem C05_parallel {m : V → V → V} (hassoc : ∀ a b c, m (m a b) c = m a (m b c))
    (shard : K → Nat) :
    ∀ (shards : List Nat), shards.Nodup → ∀ (t : Tbl K V) (ws : List (K × V)) (k : K),
      parallelInsert m shard shards t ws k =
        if shard k ∈ shards then serialInsert m t ws k else t k := by
  intro shards hnd t ws k
  -- one shard's batch: the writes to `k` are all in it, or none is
  have hstep : ∀ (t : Tbl K V) s k, stagedInsert m t (ws.filter fun kv => shard kv.1 = s) k =
      if shard k = s then foldVals m ((t k).toList ++ valsFor ws k) else t k := by
    intro t s k
    rw [stagedInsert_apply hassoc, valsFor_filter (fun k => shard k = s)]
    split
    · rfl
    · rw [List.append_nil, foldVals_toList]
  rw [serialInsert_apply]
  exact foldl_local shard (fun k o => foldVals m (o.toList ++ valsFor ws k)) _ hstep shards t k hnd

/-- the insertion path of one batch; `parallel n` runs `n + 1` shards, so that there is at least one -/
inductive Path | serial | staged | parallel (nshards : Nat)

def runBatch (m : V → V → V) (shard : K → Nat) (t : Tbl K V) : Path × List (K × V) → Tbl K V
  | (.serial, ws) => serialInsert m t ws
  | (.staged, ws) => stagedInsert m t ws
  | (.parallel n, ws) => parallelInsert m (fun k => shard k % (n + 1)) (List.range (n + 1)) t ws

theorem runBatch_eq {m : V → V → V} (hassoc : ∀ a b c, m (m a b) c = m a (m b c)) (shard : K → Nat) (t : Tbl K V)
    (b : Path × List (K × V)) : runBatch m shard t b = serialInsert m t b.2 := by
  funext k
  obtain ⟨p, ws⟩ := b
  cases p with
  | serial => rfl
  | staged => exact C05_staged hassoc t ws k
  | parallel n =>
    dsimp only [runBatch]
    rw [C05_parallel hassoc _ _ List.nodup_range, if_pos (List.mem_range.mpr (Nat.mod_lt _ n.succ_pos))]

theorem foldl_runBatch {m : V → V → V} (hassoc : ∀ a b c, m (m a b) c = m a (m b c)) (shard : K → Nat)
    (bs : List (Path × List (K × V))) (t : Tbl K V) : bs.foldl (runBatch m shard) t = serialInsert m t (bs.flatMap (·.2)) := by
  -- every batch is a serial insertion, and a fold over a `flatMap` is the fold of the folds
  have e : runBatch m shard = fun t b => b.2.foldl (write m) t :=
    funext fun t => funext (runBatch_eq hassoc shard t)
  rw [e, serialInsert, List.foldl_flatMap]

/-- **main statement**: however the multiset of writes is permuted, cut into batches, and
whichever of the three insertion paths handles each batch, the value stored for `k` is the fold
of the merge over all values written to `k`. -/
theorem C05_value {m : V → V → V} (h : ACI m) (shard : K → Nat)
    (batches : List (Path × List (K × V))) (all : List (K × V))
    (hperm : (batches.flatMap (·.2)).Perm all) (k : K) :
    batches.foldl (runBatch m shard) empty k = specVal m all k := by
  rw [foldl_runBatch h.assoc, C05_serial, C05_perm h hperm]

/-- rebuild re-insertion: when a union collapses keys (`c` canonicalises them), the value left
at a canonical key is the fold over every row whose key collapsed onto it. -/
theorem C05_rebuild (m : V → V → V) (c : K → K) (rows : List (K × V)) (k' : K) :
    rebuildInsert m c rows k' = foldVals m ((rows.filter (fun kv => c kv.1 = k')).map (·.2)) := by
  rw [rebuildInsert, C05_serial, specVal, valsFor_map_key]

theorem writeAssert_ok {t t' : Tbl K V} {kv : K × V} (h : writeAssert t kv = .ok t') :
    t' kv.1 = some kv.2 ∧ ∀ k v, t k = some v → t' k = some v := by
  revert h
  fun_cases writeAssert t kv with
  | case1 htk =>
    intro h; cases h
    refine ⟨if_pos rfl, fun k v hkv => (if_neg ?_).trans hkv⟩
    rintro rfl
    rw [htk] at hkv; cases hkv
  | case2 htk => intro h; cases h; exact ⟨htk, fun _ _ h => h⟩
  | case3 => intro h; cases h

/-- `:no-merge`: if insertion succeeds every written pair is stored as written … -/
theorem C05_nomerge_ok : ∀ (ws : List (K × V)) (t t' : Tbl K V),
    serialInsertAssert t ws = .ok t' →
      (∀ kv ∈ ws, t' kv.1 = some kv.2) ∧ (∀ k v, t k = some v → t' k = some v) := by
  intro ws t
  fun_induction serialInsertAssert t ws with
  | case1 => intro t' h; cases h; exact ⟨fun _ h => absurd h List.not_mem_nil, fun _ _ h => h⟩
  | case2 t kv ws t₁ hw ih =>
    intro t' h
    obtain ⟨i1, i2⟩ := ih t' h
    obtain ⟨w1, w2⟩ := writeAssert_ok hw
    exact ⟨List.forall_mem_cons.mpr ⟨i2 _ _ w1, i1⟩, fun k v hkv => i2 k v (w2 k v hkv)⟩
  | case3 => intro t' h; cases h

/-- … so two different values for one key can never both be accepted: an error is raised. -/
theorem C05_nomerge_conflict (ws : List (K × V)) (k : K) (v₁ v₂ : V)
    (h₁ : (k, v₁) ∈ ws) (h₂ : (k, v₂) ∈ ws) (hne : v₁ ≠ v₂) :
    ∃ e, serialInsertAssert (empty : Tbl K V) ws = .error e := by
  cases h : serialInsertAssert (empty : Tbl K V) ws with
  | error e => exact ⟨e, rfl⟩
  | ok t' =>
    have hs := (C05_nomerge_ok ws empty t' h).1
    have a : t' k = some v₁ := hs _ h₁
    have b : t' k = some v₂ := hs _ h₂
    exact absurd (Option.some.inj (a.symm.trans b)) hne

/-- pairs of booleans under component-wise `or`, i.e. a two-element set under union: a lattice
that is not totally ordered -/
def orPair (a b : Bool × Bool) : Bool × Bool := (a.1 || b.1, a.2 || b.2)

theorem orPair_ACI : ACI orPair :=
  ⟨fun _ _ _ => Prod.ext (Bool.or_assoc _ _ _) (Bool.or_assoc _ _ _),
   fun _ _ => Prod.ext (Bool.or_comm _ _) (Bool.or_comm _ _),
   fun _ => Prod.ext (Bool.or_self _) (Bool.or_self _)⟩

/-- **Defect 1 (pinned commit), by witness.** With a non-total lattice (`orPair`) the flush AS
CODED AT THE PINNED COMMIT stores the incoming value instead of the merged one. -/
theorem C05_pinned_flush_defect :
    stagedInsertPinned orPair (write orPair (empty : Tbl Nat (Bool × Bool)) (0, (true, false)))
        [(0, (false, true))] 0 = some (false, true) ∧
    specVal orPair [((0 : Nat), (true, false)), (0, (false, true))] 0 = some (true, true) := by
  exact ⟨rfl, rfl⟩

/-- non-vacuity of `C05_value`: three batches on three paths, a key written four times -/
example : [(Path.serial, [((1 : Nat), (5 : Nat)), (2, 7)]), (.staged, [(1, 3), (1, 9)]), (.parallel 3, [(2, 1), (1, 4)])].foldl
    (runBatch Nat.min (fun k => k * 7)) empty 1 = some 3 := by decide +kernel

end EgglogVerif.Merge
