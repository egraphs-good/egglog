import EgglogVerif.Model.Pool
/-
C19 — The thread pool and shared-memory helpers are safe under any interleaving.

Every theorem quantifies over ALL event sequences of the corresponding transition system, i.e.
over every interleaving of the atomic steps (sequentially consistent atomics; the runtime
behaviour the model cannot exhibit — weak memory, lost wake-ups, OS scheduling — is named in the
evidence).
-/
namespace EgglogVerif.Pool

/-! ## scope completion -/

def Scope.Inv (s : Scope) : Prop :=
  s.expected = s.completed + s.queued + s.running + (if s.rootActive then 1 else 0) ∧
  s.done = (if s.completed = s.expected then 1 else 0) ∧
  s.spawned = s.finished + s.queued + s.running

theorem Scope.Inv.init : Scope.init.Inv := ⟨rfl, rfl, rfl⟩

theorem Scope.Inv.all_completed_iff {s : Scope} (h : s.Inv) :
    s.completed = s.expected ↔ s.queued = 0 ∧ s.running = 0 ∧ s.rootActive = false := by
  rw [h.1, Nat.add_assoc, Nat.add_assoc, Nat.left_eq_add, Nat.add_eq_zero_iff, Nat.add_eq_zero_iff]
  cases s.rootActive <;> simp

/-- the `debug_assert!(completed <= expected)` of `ScopeState::complete_one` -/
theorem Scope.Inv.completed_le {s : Scope} (h : s.Inv) : s.completed ≤ s.expected := by
  rw [h.1, Nat.add_assoc, Nat.add_assoc]
  exact Nat.le_add_right ..

theorem Scope.Inv.completed_ne_of_step {s s' : Scope} {e : Ev} (h : s.Inv) (hs : s.step e = some s') :
    s.completed ≠ s.expected := by
  intro hc
  obtain ⟨hq, hr, hro⟩ := h.all_completed_iff.mp hc
  cases e <;> obtain ⟨hen, _⟩ := Option.ite_some_none_eq_some.mp hs
  · simp [hr, hro] at hen
  · exact absurd hq (Nat.ne_of_gt hen)
  · exact absurd hr (Nat.ne_of_gt hen)
  · exact Bool.noConfusion (hro.symm.trans hen)

theorem Scope.Inv.mayReturn_iff {s : Scope} (h : s.Inv) : s.mayReturn = true ↔ s.completed = s.expected := by
  rw [Scope.mayReturn, decide_eq_true_eq, h.2.1]
  split <;> simp [*]

theorem sum_start {q : Nat} (a r : Nat) (hq : 0 < q) : a + (q - 1) + (r + 1) = a + q + r := by
  obtain ⟨q, rfl⟩ := Nat.exists_eq_add_one_of_ne_zero (Nat.ne_of_gt hq)
  exact (Nat.add_right_comm (a + q) 1 r).symm

theorem sum_finish {r : Nat} (a q : Nat) (hr : 0 < r) : a + 1 + q + (r - 1) = a + q + r := by
  obtain ⟨r, rfl⟩ := Nat.exists_eq_add_one_of_ne_zero (Nat.ne_of_gt hr)
  rw [Nat.add_right_comm a 1 q]
  exact Nat.add_right_comm (a + q) 1 r

theorem completeOne_inv {s : Scope}
    (h1 : s.expected = s.completed + 1 + s.queued + s.running + (if s.rootActive then 1 else 0))
    (h2 : s.done = 0) (h3 : s.spawned = s.finished + s.queued + s.running) : (completeOne s).Inv :=
  ⟨h1, by rw [completeOne, h2], h3⟩

theorem Scope.Inv.step {s s' : Scope} {e : Ev} (h : s.Inv) (hs : s.step e = some s') : s'.Inv := by
  have hne := h.completed_ne_of_step hs
  cases e with
  | spawn =>
    obtain ⟨_, rfl⟩ := Option.ite_some_none_eq_some.mp hs
    refine ⟨?_, ?_, ?_⟩
    · show s.expected + 1 = s.completed + (s.queued + 1) + s.running + _
      -- `Nat.succ_add`, `Nat.add_succ` float every `+ 1` to the outside on both sides
      simp only [h.1, Nat.succ_add, Nat.add_succ]
    · show s.done = if s.completed = s.expected + 1 then 1 else 0
      rw [h.2.1, if_neg hne, if_neg (Nat.ne_of_lt (Nat.lt_succ_of_le h.completed_le))]
    · show s.spawned + 1 = s.finished + (s.queued + 1) + s.running
      simp only [h.2.2, Nat.succ_add, Nat.add_succ]
  | start =>
    obtain ⟨hen, rfl⟩ := Option.ite_some_none_eq_some.mp hs
    refine ⟨?_, h.2.1, ?_⟩
    · show s.expected = s.completed + (s.queued - 1) + (s.running + 1) + _
      rw [sum_start _ _ hen]
      exact h.1
    · show s.spawned = s.finished + (s.queued - 1) + (s.running + 1)
      rw [sum_start _ _ hen]
      exact h.2.2
  | finish p =>
    obtain ⟨hen, rfl⟩ := Option.ite_some_none_eq_some.mp hs
    apply completeOne_inv
    · show s.expected = s.completed + 1 + s.queued + (s.running - 1) + _
      rw [sum_finish _ _ hen]
      exact h.1
    · exact h.2.1.trans (if_neg hne)
    · show s.spawned = s.finished + 1 + s.queued + (s.running - 1)
      rw [sum_finish _ _ hen]
      exact h.2.2
  | completeRoot p =>
    obtain ⟨hen, rfl⟩ := Option.ite_some_none_eq_some.mp hs
    apply completeOne_inv
    · show s.expected = s.completed + 1 + s.queued + s.running + 0
      rw [h.1, if_pos hen]
      simp only [Nat.succ_add, Nat.add_succ, Nat.add_zero]
    · exact h.2.1.trans (if_neg hne)
    · exact h.2.2

theorem Scope.Inv.run {es : List Ev} {s s' : Scope} (h : s.Inv) (hr : Scope.run es s = some s') : s'.Inv := by
  fun_induction Scope.run es s with
  | case1 => cases hr; exact h
  | case2 => cases hr
  | case3 s e es s1 hst ih => exact ih (h.step hst) hr

/-- **The counter invariant** holds in every reachable state, for every interleaving of spawns,
job starts, job completions (normal or panicking) and the root's completion. -/
theorem C19_inv (es : List Ev) (s : Scope) (h : Scope.run es Scope.init = some s) : s.Inv :=
  Scope.Inv.init.run h

/-- **The scope returns only after every transitively spawned task has run**: the completion
signal exists exactly when nothing is queued, running or still spawning, and then every spawned
job has finished (each exactly once: `finished = spawned`). -/
theorem C19_done (es : List Ev) (s : Scope) (h : Scope.run es Scope.init = some s) :
    (s.mayReturn = true ↔ (s.queued = 0 ∧ s.running = 0 ∧ s.rootActive = false)) ∧
    (s.mayReturn = true → s.finished = s.spawned) ∧ s.done ≤ 1 := by
  have hi := C19_inv es s h
  rw [hi.mayReturn_iff, hi.all_completed_iff]
  refine ⟨Iff.rfl, fun ⟨hq, hr, _⟩ => ?_, ?_⟩
  · rw [hi.2.2, hq, hr]; rfl
  · rw [hi.2.1]; split <;> decide

/-- once the signal has been sent no event is enabled any more: in particular no late spawn can
use the (about to be destroyed) scope, and the signal is never sent twice. -/
theorem C19_terminal (es : List Ev) (s : Scope) (h : Scope.run es Scope.init = some s)
    (hd : s.mayReturn = true) (e : Ev) : s.step e = none := by
  have hi := C19_inv es s h
  cases hst : s.step e with
  | none => rfl
  | some s' => exact absurd (hi.mayReturn_iff.mp hd) (hi.completed_ne_of_step hst)

def Ev.isPanic : Ev → Bool
  | .finish p => p
  | .completeRoot p => p
  | _ => false

theorem Scope.step_panicked {s s' : Scope} {e : Ev} (hs : s.step e = some s') :
    s'.panicked = (s.panicked || e.isPanic) := by
  cases e <;> obtain ⟨_, rfl⟩ := Option.ite_some_none_eq_some.mp hs
  · exact (Bool.or_false _).symm
  · exact (Bool.or_false _).symm
  · rfl
  · rfl

/-- a panic in any job or in the root closure is remembered until the scope ends -/
theorem C19_panic : ∀ (es : List Ev) (s s' : Scope), Scope.run es s = some s' →
    s'.panicked = (s.panicked || es.any Ev.isPanic) := by
  intro es s s' h
  fun_induction Scope.run es s with
  | case1 => cases h; exact (Bool.or_false _).symm
  | case2 => cases h
  | case3 s e es s1 hst ih => rw [ih h, Scope.step_panicked hst, List.any_cons, Bool.or_assoc]

/-! ## ReadOptimizedLock -/

/-- the three phases of the protocol; `g` is the generation of every live guard -/
inductive Lock.Inv : Lock → Prop
  | reading (g n : Nat) (gs : List Nat) : (∀ x ∈ gs, x = g) → Lock.Inv ⟨.readOk g, n, gs, none, false⟩
  | waiting (g n : Nat) (gs : List Nat) : (∀ x ∈ gs, x = g) → Lock.Inv ⟨.writeOngoing, n, gs, some g, false⟩
  | writing (n : Nat) : Lock.Inv ⟨.writeOngoing, n, [], none, true⟩

theorem Lock.Inv.step {l l' : Lock} {e : LEv} (h : l.Inv) (hs : l.step e = some l') : l'.Inv := by
  cases e with
  | readAcquire =>
    cases h with
    | reading g n gs hg => cases hs; exact .reading g n _ (List.forall_mem_cons.mpr ⟨rfl, hg⟩)
    | _ => cases hs
  | readRelease g' =>
    obtain ⟨_, rfl⟩ := Option.ite_some_none_eq_some.mp hs
    cases h with
    | reading g n gs hg => exact .reading g n _ fun x hx => hg x (List.mem_of_mem_erase hx)
    | waiting g n gs hg => exact .waiting g n _ fun x hx => hg x (List.mem_of_mem_erase hx)
    | writing n => exact .writing n
  | writeCas =>
    cases h with
    | reading g n gs hg => cases hs; exact .waiting g n gs hg
    | _ => cases hs
  | writeEnter =>
    cases h with
    | waiting g n gs hg =>
      obtain ⟨hnot, hs⟩ := Option.ite_none_left_eq_some.mp hs
      cases hs
      -- every guard is of the generation waited for, and none of that generation is left
      cases List.eq_nil_iff_forall_not_mem.mpr fun x hx => hnot (hg x hx ▸ hx)
      exact .writing n
    | _ => cases hs
  | writeRelease =>
    cases h with
    | writing n => cases hs; exact .reading n (n + 1) [] (List.forall_mem_nil _)
    | _ => cases hs

theorem Lock.Inv.run {es : List LEv} {l l' : Lock} (h : l.Inv) (hr : Lock.run es l = some l') : l'.Inv := by
  fun_induction Lock.run es l with
  | case1 => cases hr; exact h
  | case2 => cases hr
  | case3 l e es l1 hst ih => exact ih (h.step hst) hr

/-- **Readers and writers never overlap, and writers exclude each other**, for every
interleaving of acquisitions, releases, the writer's token swap and its wait for the readers. -/
theorem C19_rw (es : List LEv) (l : Lock) (h : Lock.run es Lock.init = some l) :
    (l.writing = true → l.guards = []) ∧
    (l.writing = true ∨ l.waitingFor.isSome → l.step .writeCas = none ∧ l.step .readAcquire = none) := by
  cases (Lock.Inv.reading 0 1 [] (List.forall_mem_nil _)).run h with
  | reading => exact ⟨nofun, fun hw => hw.elim nofun nofun⟩
  | waiting => exact ⟨nofun, fun _ => ⟨rfl, rfl⟩⟩
  | writing => exact ⟨fun _ => rfl, fun _ => ⟨rfl, rfl⟩⟩

/-! ## range reservation -/

/-- **Ranges handed out by `fetch_add` are pairwise disjoint and inside the final length**,
whatever the order in which concurrent reservations hit the counter. -/
theorem C19_ranges : ∀ (lens : List Nat) (head : Nat),
    let r := reserveAll lens head
    (∀ p ∈ r.1, head ≤ p.1 ∧ p.1 + p.2 ≤ r.2) ∧ head ≤ r.2 ∧
    r.1.Pairwise (fun a b => a.1 + a.2 ≤ b.1) := by
  intro lens
  induction lens with
  | nil => exact fun head => ⟨List.forall_mem_nil _, Nat.le_refl _, .nil⟩
  | cons len rest ih =>
    intro head
    obtain ⟨i1, i2, i3⟩ := ih (head + len)
    have hle : head ≤ head + len := Nat.le_add_right ..
    refine ⟨fun p hp => ?_, Nat.le_trans hle i2, List.pairwise_cons.mpr ⟨fun b hb => (i1 b hb).1, i3⟩⟩
    rcases List.mem_cons.mp hp with rfl | hp
    · exact ⟨Nat.le_refl _, i2⟩
    · exact ⟨Nat.le_trans hle (i1 p hp).1, (i1 p hp).2⟩

/-- non-vacuity: a nested-spawn history reaches the completion signal -/
example : (Scope.run [.spawn, .start, .spawn, .completeRoot false, .start, .finish true, .finish false] Scope.init).map
    (fun s => (s.mayReturn, s.finished, s.panicked)) = some (true, 2, true) := by decide +kernel
/-- non-vacuity: a reader/writer history through one complete write -/
example : (Lock.run [.readAcquire, .writeCas, .readRelease 0, .writeEnter, .writeRelease, .readAcquire] Lock.init).map
    (fun l => (l.writing, l.guards)) = some (false, [1]) := by decide +kernel

end EgglogVerif.Pool
