import EgglogVerif.Model.ProofCk
/-
C12 — the checker accepts a proof only if each step is justified (equational layer).

`C12_sound`: if the structural checker accepts a proof, then in EVERY interpretation of the terms
that respects congruence and validates the steps justified by the program — `leaf` (MergeFn),
and at this layer also `fiat` and `rule`, which C12r checks against the program — every
proposition of the proof holds, in particular its conclusion.  So a proof with a swapped `Trans`,
a wrong congruence index or a substituted term is accepted only if the altered step is itself
derivable.
-/
namespace EgglogVerif.ProofCk

/-- an interpretation of term ids that respects congruence over the term table -/
def Congruent (terms : Array Term) (den : Nat → Nat) : Prop :=
  ∀ a b ta tb, terms[a]? = some ta → terms[b]? = some tb → ta.head = tb.head →
    ta.kids.map den = tb.kids.map den → den a = den b

def Holds (den : Nat → Nat) (s : Step) : Prop := den s.lhs = den s.rhs

theorem map_set (den : Nat → Nat) {kids : List Nat} {i x : Nat} (c : Nat) (h : kids[i]? = some x) (hd : den x = den c) :
    (kids.set i c).map den = kids.map den := by
  obtain ⟨hi, rfl⟩ := List.getElem?_eq_some_iff.mp h
  rw [List.map_set, ← hd, ← List.getElem_map den (h := by rwa [List.length_map]), List.set_getElem_self]

section
variable {prog : Prog} {terms : Array Term} {prev : List Step} {D : Nat → Nat → Prop}

theorem stepOk_sym {p l r : Nat}
    (h : stepOk prog terms prev ⟨.sym p, l, r⟩ = true) : ∃ sp, prev[p]? = some sp ∧ l = sp.rhs ∧ r = sp.lhs := by
  dsimp only [stepOk] at h
  split at h
  · simp only [Bool.and_eq_true, beq_iff_eq] at h
    exact ⟨_, ‹_›, h⟩
  · cases h

theorem stepOk_trans {p q l r : Nat}
    (h : stepOk prog terms prev ⟨.trans p q, l, r⟩ = true) :
    ∃ sp sq, prev[p]? = some sp ∧ prev[q]? = some sq ∧ sp.rhs = sq.lhs ∧ l = sp.lhs ∧ r = sq.rhs := by
  dsimp only [stepOk] at h
  split at h
  · simp only [Bool.and_eq_true, beq_iff_eq] at h
    exact ⟨_, _, ‹_›, ‹_›, h.1.1, h.1.2, h.2⟩
  · cases h

/-- `r` is the term `sp.rhs` with its `i`-th child `sq.lhs` replaced by `sq.rhs` -/
theorem stepOk_congr {p i q l r : Nat}
    (h : stepOk prog terms prev ⟨.congr p i q, l, r⟩ = true) :
    ∃ sp sq t, prev[p]? = some sp ∧ prev[q]? = some sq ∧ terms[sp.rhs]? = some t ∧ l = sp.lhs ∧
      t.kids[i]? = some sq.lhs ∧ terms[r]? = some ⟨t.head, t.kids.set i sq.rhs⟩ := by
  dsimp only [stepOk] at h
  split at h
  · split at h
    · rename_i sp sq hp hq _ _ t t' ht ht'
      simp only [Bool.and_eq_true, beq_iff_eq, setKid] at h
      obtain ⟨⟨⟨⟨h1, h2⟩, _⟩, h4⟩, h5⟩ := h
      exact ⟨sp, sq, t, hp, hq, ht, h1, h4, by rw [ht', h2, ← h5]⟩
    · cases h
  · cases h

structure EqClosed (terms : Array Term) (D : Nat → Nat → Prop) : Prop where
  sym : ∀ a b, D a b → D b a
  trans : ∀ a b c, D a b → D b c → D a c
  congr : ∀ l t t' c c' i tt, D l t → D c c' → terms[t]? = some tt → tt.kids[i]? = some c →
    terms[t']? = some ⟨tt.head, tt.kids.set i c'⟩ → D l t'

theorem Congruent.eqClosed {terms : Array Term} {den : Nat → Nat} (hc : Congruent terms den) :
    EqClosed terms (fun a b => den a = den b) where
  sym := fun _ _ => Eq.symm
  trans := fun _ _ _ => Eq.trans
  congr := fun _ t t' _ c' _ tt h1 h2 ht hk ht' =>
    h1.trans (hc t t' tt _ ht ht' rfl (map_set den c' hk h2).symm)

theorem stepOk_eqClosed (hD : EqClosed terms D) (hprev : ∀ x ∈ prev, D x.lhs x.rhs) {j : Just} {l r : Nat}
    (hleaf : j = .leaf → D l r) (hfiat : j = .fiat → D l r) (hrule : ∀ n ps σ, j = .rule n ps σ → D l r)
    (hok : stepOk prog terms prev ⟨j, l, r⟩ = true) : D l r := by
  cases j with
  | leaf => exact hleaf rfl
  | fiat => exact hfiat rfl
  | rule n ps σ => exact hrule n ps σ rfl
  | sym p =>
    obtain ⟨sp, hp, rfl, rfl⟩ := stepOk_sym hok
    exact hD.sym _ _ (hprev sp (List.mem_of_getElem? hp))
  | trans p q =>
    obtain ⟨sp, sq, hp, hq, hm, rfl, rfl⟩ := stepOk_trans hok
    exact hD.trans _ _ _ (hprev sp (List.mem_of_getElem? hp)) (hm ▸ hprev sq (List.mem_of_getElem? hq))
  | congr p i q =>
    obtain ⟨sp, sq, t, hp, hq, ht, rfl, hk, hr⟩ := stepOk_congr hok
    exact hD.congr _ _ _ _ _ i t (hprev sp (List.mem_of_getElem? hp)) (hprev sq (List.mem_of_getElem? hq)) ht hk hr

theorem checkFrom_forall {P : Step → Prop} (steps prev : List Step) (hprev : ∀ x ∈ prev, P x)
    (hstep : ∀ s ∈ steps, ∀ prev, (∀ x ∈ prev, P x) → stepOk prog terms prev s = true → P s)
    (hok : checkFrom prog terms prev steps = true) : ∀ s ∈ steps, P s := by
  fun_induction checkFrom prog terms prev steps with
  | case1 => exact List.forall_mem_nil _
  | case2 prev s rest ih =>
    obtain ⟨h1, h2⟩ := Bool.and_eq_true_iff.mp hok
    have hs : P s := hstep s List.mem_cons_self prev hprev h1
    exact List.forall_mem_cons.mpr ⟨hs, ih (List.forall_mem_append.mpr ⟨hprev, List.forall_mem_singleton.mpr hs⟩)
      (fun y hy => hstep y (List.mem_cons_of_mem _ hy)) h2⟩

end

/-- **Soundness of the structural checker** (equational layer): an accepted proof proves only what
follows from its program-justified steps (leaves, fiat and rule steps — for the latter two see
`C12_rule_sound` in C12r) by symmetry, transitivity and congruence. -/
theorem C12_sound (prog : Prog) (terms : Array Term) (steps : List Step) (den : Nat → Nat) (hc : Congruent terms den)
    (hleaf : ∀ s ∈ steps, s.just = .leaf ∨ s.just = .fiat → Holds den s)
    (hrule : ∀ s ∈ steps, ∀ r ps σ, s.just = .rule r ps σ → Holds den s)
    (hok : checkProof prog terms steps = true) :
    ∀ s ∈ steps, Holds den s :=
  checkFrom_forall steps [] (List.forall_mem_nil _)
    (fun s hs _ hprev => stepOk_eqClosed hc.eqClosed hprev (fun h => hleaf s hs (.inl h))
      (fun h => hleaf s hs (.inr h)) (hrule s hs)) hok

/-- a step that refers to a later (or missing) step is never accepted: proofs are well-founded -/
theorem C12_wellfounded (prog : Prog) (terms : Array Term) (prev : List Step) (p : Nat) (l r : Nat) (h : prev.length ≤ p) :
    stepOk prog terms prev ⟨.sym p, l, r⟩ = false :=
  Bool.eq_false_iff.mpr fun hok => by
    obtain ⟨sp, hp, _⟩ := stepOk_sym hok
    rw [List.getElem?_eq_none h] at hp; cases hp

/-- swapping the operands of a `Trans` whose middle terms differ is rejected -/
theorem C12_swapped_trans_rejected (prog : Prog) (terms : Array Term) (prev : List Step) (p q : Nat) (sp sq : Step)
    (hp : prev[p]? = some sp) (hq : prev[q]? = some sq) (hne : sq.rhs ≠ sp.lhs) (l r : Nat) :
    stepOk prog terms prev ⟨.trans q p, l, r⟩ = false :=
  Bool.eq_false_iff.mpr fun hok => by
    obtain ⟨sq', sp', hq', hp', hm, _⟩ := stepOk_trans hok
    rw [hq] at hq'; rw [hp] at hp'
    cases hq'; cases hp'; exact hne hm

/-- non-vacuity: f(a) = f(b) from a = b -/
example : checkProof ⟨[], [], []⟩ #[⟨0, []⟩, ⟨1, []⟩, ⟨2, [0]⟩, ⟨2, [1]⟩]
    [⟨.leaf, 0, 1⟩, ⟨.leaf, 2, 2⟩, ⟨.congr 1 0 0, 2, 3⟩, ⟨.sym 2, 3, 2⟩] = true := by decide +kernel
end EgglogVerif.ProofCk
