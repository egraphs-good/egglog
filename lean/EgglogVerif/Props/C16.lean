import EgglogVerif.Lemmas.Table
import EgglogVerif.Model.Index
/-
C16 — The table store behaves like a keyed map.

Refinement of the `SortedWritesTable` model (rows + stale marks + hash index + compaction) to a
plain map `Key → Option Row`, for EVERY sequence of merges (staged removals then staged
insertions, with any merge function that keeps the key), compactions and clears.
-/
namespace EgglogVerif.Table

inductive Op where
  | merge (dels : List Key) (ins : List Row)
  | rehash
  | clear

def step (m : Row → Row → Option Row) (t : Table) : Op → Table
  | .merge dels ins => t.merge m dels ins
  | .rehash => t.rehash
  | .clear => t.clear

def run (m : Row → Row → Option Row) (n : Nat) (ops : List Op) : Table := ops.foldl (step m) (Table.empty n)

/-- the specification: a plain keyed map -/
def eraseF (f : Key → Option Row) (k : Key) : Key → Option Row := fun k' => if k' = k then none else f k'

def specStep (n : Nat) (m : Row → Row → Option Row) (f : Key → Option Row) : Op → (Key → Option Row)
  | .merge dels ins => ins.foldl (upsert n m) (dels.foldl eraseF f)
  | .rehash => f
  | .clear => fun _ => none

def specRun (n : Nat) (m : Row → Row → Option Row) (ops : List Op) : Key → Option Row :=
  ops.foldl (specStep n m) (fun _ => none)

/-- the merge function never changes a row's key (true of every `MergeFn` egglog builds: the key
columns are copied from `cur`) -/
def KeepsKey (n : Nat) (m : Row → Row → Option Row) : Prop :=
  ∀ cur new merged, m cur new = some merged → keyOf n merged = keyOf n cur

theorem KeepsKey.same {n : Nat} {m : Row → Row → Option Row} (hk : KeepsKey n m) : KeepsSameKey n m :=
  fun _ _ _ e hm => (hk _ _ _ hm).trans e

structure Refines (n : Nat) (t : Table) (f : Key → Option Row) : Prop where
  wf : WF t
  nKeys : t.nKeys = n
  getRow : t.getRow = f

theorem Refines.empty (n : Nat) : Refines n (Table.empty n) (fun _ => none) := ⟨WF.empty n, rfl, rfl⟩

section
variable {n : Nat} {m : Row → Row → Option Row} {t : Table} {f : Key → Option Row}

theorem Refines.deleteOne (h : Refines n t f) (k : Key) :
    Refines n (t.deleteOne k) (eraseF f k) := by
  obtain ⟨w, rfl, rfl⟩ := h
  obtain ⟨w', hn, hg⟩ := deleteOne_spec w k
  exact ⟨w', hn, funext hg⟩

theorem Refines.insertOne (hk : KeepsSameKey n m) (h : Refines n t f) (r : Row) :
    Refines n (t.insertOne m r) (upsert n m f r) := by
  obtain ⟨w, rfl, rfl⟩ := h
  obtain ⟨w', hn, hg⟩ := insertOne_spec_of_sameKey w hk r
  exact ⟨w', hn, funext hg⟩

theorem Refines.rehash (h : Refines n t f) : Refines n t.rehash f := by
  obtain ⟨w, rfl, rfl⟩ := h
  obtain ⟨w', hn, _, _, hg⟩ := rehash_spec w
  exact ⟨w', hn, funext hg⟩

theorem Refines.clear (h : Refines n t f) : Refines n t.clear (fun _ => none) := by
  unfold Table.clear
  split
  · next hz =>
    -- `clear` returns early on an empty buffer, where no row id resolves to a row
    refine ⟨h.wf, h.nKeys, funext fun k => ?_⟩
    simp [Table.getRow, Table.rowAt, List.eq_nil_of_length_eq_zero hz]
  · exact ⟨.of_rows_nil rfl fun _ => rfl, h.nKeys, rfl⟩

theorem Refines.doDelete (h : Refines n t f) (ks : List Key) :
    Refines n (t.doDelete ks) (ks.foldl eraseF f) :=
  List.foldl_rel h fun k _ _ _ h => h.deleteOne k

theorem Refines.doInsert (hk : KeepsSameKey n m) (h : Refines n t f) (rs : List Row) :
    Refines n (t.doInsert m rs) (rs.foldl (upsert n m) f) :=
  List.foldl_rel h fun r _ _ _ h => h.insertOne hk r

theorem Refines.maybeRehash (h : Refines n t f) : Refines n t.maybeRehash f :=
  maybeRehash_cases (P := (Refines n · f)) h h.rehash

theorem Refines.step (hk : KeepsSameKey n m) (h : Refines n t f) : ∀ op, Refines n (step m t op) (specStep n m f op)
  | .merge dels ins => ((h.doDelete dels).doInsert hk ins).maybeRehash
  | .rehash => h.rehash
  | .clear => h.clear

end

theorem run_refines {m : Row → Row → Option Row} {n : Nat} (hk : KeepsSameKey n m) (ops : List Op) :
    Refines n (run m n ops) (specRun n m ops) :=
  List.foldl_rel (Refines.empty n) fun op _ _ _ h => h.step hk op

/-! ## Property theorems -/

/-- **Refinement**: after ANY operation sequence the store is well-formed (hash index in sync with
the live rows, one live row per key) and answers every point lookup like the plain map. -/
theorem C16_refine (m : Row → Row → Option Row) (n : Nat) (hk : KeepsKey n m) (ops : List Op) :
    WF (run m n ops) ∧ (run m n ops).getRow = specRun n m ops :=
  have h := run_refines hk.same ops
  ⟨h.wf, h.getRow⟩

/-- **Full scans** return exactly the rows of the map, each once: live rows only, never a removed
or superseded row, never two rows for one key. -/
theorem C16_scan (m : Row → Row → Option Row) (n : Nat) (hk : KeepsKey n m) (ops : List Op) :
    (∀ r, r ∈ (run m n ops).scan ↔ specRun n m ops (keyOf (run m n ops).nKeys r) = some r) ∧
    (((run m n ops).scan).map (keyOf (run m n ops).nKeys)).Nodup := by
  obtain ⟨w, hg⟩ := C16_refine m n hk ops
  refine ⟨fun r => ?_, w.nodupKeys⟩
  rw [← hg, getRow_iff w]
  exact ⟨fun hr => ⟨hr, rfl⟩, And.left⟩

/-- **Constrained scans / refine** return exactly the rows of the map that satisfy every
constraint. -/
theorem C16_scanWhere (m : Row → Row → Option Row) (n : Nat) (hk : KeepsKey n m) (ops : List Op)
    (cs : List Constraint) (r : Row) :
    r ∈ (run m n ops).scanWhere cs ↔
      specRun n m ops (keyOf (run m n ops).nKeys r) = some r ∧ cs.all (·.eval r) = true := by
  unfold Table.scanWhere
  rw [List.mem_filter, (C16_scan m n hk ops).1 r]

/-- **Compaction** keeps the live rows and their order, leaves no stale row and bumps the major
generation (row ids moved). -/
theorem C16_rehash (m : Row → Row → Option Row) (n : Nat) (hk : KeepsKey n m) (ops : List Op) :
    let t := run m n ops
    t.rehash.scan = t.scan ∧ (∀ o ∈ t.rehash.rows, o ≠ none) ∧ t.rehash.gen = t.gen + 1 ∧
      t.rehash.getRow = t.getRow := by
  obtain ⟨w, _⟩ := C16_refine m n hk ops
  obtain ⟨_, _, hs, hl, hg⟩ := rehash_spec w
  exact ⟨hs, hl, rfl, funext hg⟩

/-- **Clear** empties the map. -/
theorem C16_clear (m : Row → Row → Option Row) (n : Nat) (hk : KeepsKey n m) (ops : List Op) (k : Key) :
    (run m n (ops ++ [.clear])).getRow k = none := by
  rw [(C16_refine m n hk _).2, specRun, List.foldl_append]
  rfl

/-- non-vacuity: a concrete history with a collision, a removal and a compaction -/
example :
    let m : Row → Row → Option Row := fun cur new => if cur = new then none else some new
    let t := run m 1 [.merge [] [[1, 10], [2, 20], [1, 11]], .merge [[2]] [[3, 30]], .rehash]
    t.getRow [1] = some [1, 11] ∧ t.getRow [2] = none ∧ t.scan = [[1, 11], [3, 30]] := by decide +kernel

/-! ### cached column indexes -/

/-- what the index recorded for a row id still describes the row at that id, if it is still live -/
def Agree (col : Nat) : List (Option Nat) → List (Option Row) → Prop
  | [], _ => True
  | _ :: _, [] => False
  | kv :: ks, r :: rs => (∀ row, r = some row → kv = some (row.getD col 0)) ∧ Agree col ks rs

theorem Agree.set_none {col : Nat} {vals : List (Option Nat)} {rows : List (Option Row)} (i : Nat)
    (h : Agree col vals rows) : Agree col vals (rows.set i none) := by
  induction vals, rows using Agree.induct generalizing i with
  | case1 => trivial
  | case2 => exact h
  | case3 kv ks r rs ih =>
    cases i with
    | zero => exact ⟨nofun, h.2⟩
    | succ j => exact ⟨h.1, ih j h.2⟩

theorem Agree.append {col : Nat} {vals : List (Option Nat)} {rows : List (Option Row)}
    (extra : List (Option Row)) (h : Agree col vals rows) : Agree col vals (rows ++ extra) := by
  induction vals, rows using Agree.induct with
  | case1 => trivial
  | case2 => exact h.elim
  | case3 kv ks r rs ih => exact ⟨h.1, ih h.2⟩

theorem agree_keyVals (col : Nat) (rows : List (Option Row)) : Agree col (keyVals col rows) rows := by
  induction rows with
  | nil => trivial
  | cons r rs ih => exact ⟨fun row hr => hr ▸ rfl, ih⟩

/-- the same-generation branch of `Index.refresh`: the rows not yet seen are added, and then every row is covered -/
theorem Agree.extend {col : Nat} {vals : List (Option Nat)} {rows : List (Option Row)} (h : Agree col vals rows) :
    Agree col (vals ++ keyVals col (rows.drop vals.length)) rows ∧
      (vals ++ keyVals col (rows.drop vals.length)).length = rows.length := by
  induction vals, rows using Agree.induct with
  | case1 rows => exact ⟨agree_keyVals col rows, List.length_map _⟩
  | case2 => exact h.elim
  | case3 kv ks r rs ih => exact ⟨⟨h.1, (ih h.2).1⟩, congrArg (· + 1) (ih h.2).2⟩

theorem zipLookup_eq {col : Nat} (v : Nat) {vals : List (Option Nat)} {rows : List (Option Row)}
    (h : Agree col vals rows) :
    zipLookup v vals rows = (live (rows.take vals.length)).filter (fun r => r.getD col 0 == v) := by
  induction vals, rows using Agree.induct with
  | case1 => rfl
  | case2 => exact h.elim
  | case3 kv ks r rs ih =>
    cases r with
    | none => exact ih h.2
    | some row =>
      have hkv : (kv = some v) = ((row.getD col 0 == v) = true) := by
        rw [h.1 row rfl, Option.some.injEq, beq_iff_eq]
      simp only [zipLookup, List.length_cons, List.take_succ_cons, live, List.filterMap_cons, id, List.filter_cons,
        hkv, ih h.2]

/-- the invariant tying a cached index to its table: never ahead of the table's generation, and
within the same generation a prefix of the rows that agrees with what is still live there -/
structure IxInv (ix : Index) (t : Table) : Prop where
  le : ix.major ≤ t.gen
  agree : ix.major = t.gen → Agree ix.col ix.vals t.rows

section
variable {ix : Index} {t : Table}

theorem IxInv.of_rows {t' : Table} (i : IxInv ix t) (hg : t'.gen = t.gen)
    (ha : ∀ vals, Agree ix.col vals t.rows → Agree ix.col vals t'.rows) : IxInv ix t' :=
  ⟨hg ▸ i.le, fun h => ha _ (i.agree (hg ▸ h))⟩

theorem IxInv.bump {t' : Table} (i : IxInv ix t) (hg : t'.gen = t.gen + 1) : IxInv ix t' :=
  ⟨by rw [hg]; exact Nat.le_succ_of_le i.le, fun h => absurd i.le (by rw [h, hg]; exact Nat.not_succ_le_self _)⟩

theorem IxInv.deleteOne (i : IxInv ix t) (k : Key) : IxInv ix (t.deleteOne k) := by
  unfold Table.deleteOne
  split
  · exact i
  · exact i.of_rows rfl fun _ => Agree.set_none _

theorem IxInv.append (i : IxInv ix t) (k : Key) (r : Row) : IxInv ix (t.append k r) :=
  i.of_rows rfl fun _ => Agree.append _

theorem IxInv.insertOne (i : IxInv ix t) (m : Row → Row → Option Row) (r : Row) :
    IxInv ix (t.insertOne m r) := by
  rw [insertOne_eq]
  split
  · exact i.append _ _
  · split
    · exact i
    · exact (i.deleteOne _).append _ _

theorem IxInv.doDelete (i : IxInv ix t) (ks : List Key) : IxInv ix (t.doDelete ks) :=
  List.foldlRecOn ks _ i fun _ i k _ => i.deleteOne k

theorem IxInv.doInsert (i : IxInv ix t) (m : Row → Row → Option Row) (rs : List Row) :
    IxInv ix (t.doInsert m rs) :=
  List.foldlRecOn rs _ i fun _ i r _ => i.insertOne m r

theorem IxInv.rehash (i : IxInv ix t) : IxInv ix t.rehash := i.bump rfl

theorem IxInv.maybeRehash (i : IxInv ix t) : IxInv ix t.maybeRehash :=
  maybeRehash_cases i i.rehash

theorem IxInv.clear (i : IxInv ix t) : IxInv ix t.clear := by
  unfold Table.clear
  split
  · exact i
  · exact i.bump rfl

/-- **every table operation keeps every cached index valid or makes it detectably out of date** -/
theorem IxInv.step (i : IxInv ix t) (m : Row → Row → Option Row) :
    ∀ op, IxInv ix (step m t op)
  | .merge dels ins => ((i.doDelete dels).doInsert m ins).maybeRehash
  | .rehash => i.rehash
  | .clear => i.clear

end

/-- a refresh brings the index up to date with the whole table -/
theorem IxInv.refresh {ix : Index} {t : Table} (i : IxInv ix t) :
    IxInv (ix.refresh t) t ∧ (ix.refresh t).major = t.gen ∧ (ix.refresh t).vals.length = t.rows.length ∧
      (ix.refresh t).col = ix.col := by
  unfold Index.refresh
  split
  · next he => exact ⟨⟨Nat.le_of_eq he, fun _ => (i.agree he).extend.1⟩, he, (i.agree he).extend.2, rfl⟩
  · exact ⟨⟨Nat.le_refl _, fun _ => agree_keyVals _ _⟩, rfl, List.length_map _, rfl⟩

theorem IxInv.lookup_refresh {ix : Index} {t : Table} (i : IxInv ix t) (v : Nat) :
    (ix.refresh t).lookup t v = t.scan.filter (fun r => r.getD ix.col 0 == v) := by
  obtain ⟨i', hg, hl, hc⟩ := i.refresh
  rw [Index.lookup, zipLookup_eq v (i'.agree hg), hl, List.take_length, hc, scan_eq_live]

/-- histories: table operations interleaved with refreshes of one cached index at arbitrary moments -/
inductive IOp where
  | tbl (op : Op)
  | refresh

def istep (m : Row → Row → Option Row) (s : Table × Index) : IOp → Table × Index
  | .tbl op => (step m s.1 op, s.2)
  | .refresh => (s.1, s.2.refresh s.1)

def irun (m : Row → Row → Option Row) (n col : Nat) (ops : List IOp) : Table × Index :=
  ops.foldl (istep m) (Table.empty n, Index.fresh col)

theorem IxInv.irun (m : Row → Row → Option Row) (n col : Nat) (ops : List IOp) :
    IxInv (irun m n col ops).2 (irun m n col ops).1 ∧ (irun m n col ops).2.col = col := by
  refine List.foldlRecOn ops (istep m) (motive := fun s : Table × Index => IxInv s.2 s.1 ∧ s.2.col = col)
    ⟨⟨Nat.le_refl _, fun _ => trivial⟩, rfl⟩ ?_
  rintro s ⟨i, c⟩ (o | _) _
  · exact ⟨i.step m o, c⟩
  · exact ⟨i.refresh.1, i.refresh.2.2.2.trans c⟩

/-- **Index lookups behave like the keyed map.**  After ANY history of merges, compactions and
clears with refreshes of the cached index at arbitrary moments (so the index is stale, partially
stale or from an older generation in between), refreshing and reading through the index returns
exactly the live rows whose indexed column has the requested value, in scan order — a lookup
obtained after a merge reflects that merge. -/
theorem C16_index (m : Row → Row → Option Row) (n col : Nat) (ops : List IOp) (v : Nat) :
    let s := irun m n col ops
    (s.2.refresh s.1).lookup s.1 v = s.1.scan.filter (fun r => r.getD col 0 == v) := by
  obtain ⟨i, c⟩ := IxInv.irun m n col ops
  have := i.lookup_refresh v
  rw [c] at this
  exact this

/-- **A stale index is never wrong about what it returns**: even WITHOUT a refresh, within the same
generation everything read through the index is a live row with the requested value (it may miss
rows appended since — which is why the version check forces the refresh). -/
theorem C16_index_stale_sound (col v : Nat) : ∀ (vals : List (Option Nat)) (rows : List (Option Row)),
    Agree col vals rows → ∀ r ∈ zipLookup v vals rows, r ∈ live rows ∧ r.getD col 0 = v := by
  intro vals rows h r hr
  rw [zipLookup_eq v h, List.mem_filter] at hr
  exact ⟨((List.take_sublist _ _).filterMap id).subset hr.1, beq_iff_eq.mp hr.2⟩

end EgglogVerif.Table
