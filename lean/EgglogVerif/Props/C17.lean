import EgglogVerif.Lemmas.UF
/-
C17 — Union-find: same class iff connected, representative is the minimum id.

Sequential structure (`union-find/src/lib.rs`), for EVERY operation sequence.
The concurrent structure is in `Props/C17c.lean`.
-/
namespace EgglogVerif.UF

/-- connectivity generated by a list of requested unions -/
inductive Conn (U : List (Nat × Nat)) : Nat → Nat → Prop
  | base {a b} : (a, b) ∈ U → Conn U a b
  | refl (a) : Conn U a a
  | symm {a b} : Conn U a b → Conn U b a
  | trans {a b c} : Conn U a b → Conn U b c → Conn U a c

theorem Conn.least {U : List (Nat × Nat)} {R : Nat → Nat → Prop} (e : Equivalence R)
    (h : ∀ a b, (a, b) ∈ U → R a b) {x y} (c : Conn U x y) : R x y := by
  induction c with
  | base hu => exact h _ _ hu
  | refl => exact e.refl _
  | symm _ ih => exact e.symm ih
  | trans _ _ ih1 ih2 => exact e.trans ih1 ih2

theorem Conn.mono {U V : List (Nat × Nat)} (h : ∀ p, p ∈ U → p ∈ V) {a b} (c : Conn U a b) : Conn V a b :=
  c.least ⟨.refl, .symm, .trans⟩ fun _ _ hu => .base (h _ hu)

/-- the unions in force after an op (a `reset` forgets them all) -/
def trackU (U : List (Nat × Nat)) : Op → List (Nat × Nat)
  | .union a b => (a, b) :: U
  | .reset => []
  | _ => U

def unionsOf (ops : List Op) : List (Nat × Nat) := ops.foldl trackU []

/-- the specification the structure refines: its partition is the connectivity of the unions
(`Good.iff`), by generators, which each operation preserves -/
structure Good (p : Parents) (U : List (Nat × Nat)) : Prop where
  inv : AInv p
  conn : ∀ z, Conn U z (root (par p) z)
  same : ∀ a b, (a, b) ∈ U → root (par p) a = root (par p) b

theorem Good.iff {p : Parents} {U} (g : Good p U) (x y : Nat) :
    root (par p) x = root (par p) y ↔ Conn U x y :=
  ⟨fun e => (g.conn x).trans (e ▸ (g.conn y).symm),
    Conn.least (R := fun x y => root (par p) x = root (par p) y) ⟨fun _ => rfl, Eq.symm, Eq.trans⟩ g.same⟩

theorem Good.of_id {p : Parents} (h : ∀ x, par p x = x) : Good p [] :=
  ⟨AInv.of_id h, fun z => by rw [root_of_id h]; exact .refl z, nofun⟩

theorem Good.of_roots {p q : Parents} {U} (g : Good p U) (hq : AInv q)
    (hr : ∀ x, root (par q) x = root (par p) x) : Good q U :=
  ⟨hq, fun z => hr z ▸ g.conn z, fun a b h => by rw [hr, hr]; exact g.same a b h⟩

theorem Good.union {p : Parents} {U} (g : Good p U) (a b : Nat) : Good (union p a b).1 ((a, b) :: U) := by
  obtain ⟨c, m, hcm, hr⟩ := union_roots p a b g.inv
  have hmono : ∀ {s t}, Conn U s t → Conn ((a, b) :: U) s t :=
    fun h => h.mono (fun _ h => List.mem_cons_of_mem _ h)
  have hab : Conn ((a, b) :: U) (root (par p) a) (root (par p) b) :=
    (hmono (g.conn a)).symm.trans ((Conn.base List.mem_cons_self).trans (hmono (g.conn b)))
  refine ⟨g.inv.union a b, fun z => ?_, fun s t hst => ?_⟩
  · -- the new root of `z` is its old root, or `m` if that was `c`; `c` and `m` are the roots of `a`, `b`
    rw [hr]
    refine (hmono (g.conn z)).trans ?_
    split
    · rename_i hz
      rw [hz]
      rcases hcm with ⟨rfl, rfl⟩ | ⟨rfl, rfl⟩
      · exact hab
      · exact hab.symm
    · exact .refl _
  · -- the new root is a function of the old one, and it sends the old roots of `a` and `b` to `m`
    rw [hr, hr]
    rcases List.mem_cons.mp hst with e | h
    · cases e
      rcases hcm with ⟨rfl, rfl⟩ | ⟨rfl, rfl⟩
      · rw [if_pos rfl, ite_self]
      · rw [if_pos rfl, ite_self]
    · rw [g.same s t h]

theorem Good.step {p : Parents} {U} (g : Good p U) : ∀ op, Good (step p op) (trackU U op)
  | .find a => let ⟨hq, _, hr, _⟩ := find_spec p a g.inv; g.of_roots hq hr
  | .reserve a => g.of_roots (g.inv.reserve a) (fun x => congrArg (root · x) (par_reserve p a))
  | .reset => Good.of_id (par_reset p)
  | .union a b => g.union a b

theorem Good.foldl {p : Parents} {U} (g : Good p U) (ops : List Op) :
    Good (ops.foldl UF.step p) (ops.foldl trackU U) :=
  List.foldl_rel (r := fun p U => Good p U) g fun op _ _ _ g => g.step op

theorem Good.run (ops : List Op) : Good (run ops #[]) (unionsOf ops) :=
  (Good.of_id par_empty).foldl ops

/-! ## Any vector with `parents[i] ≤ i` -/

theorem findNaive_min {p : Parents} (h : AInv p) {x y : Nat} (e : findNaive p y = findNaive p x) :
    findNaive p x ≤ y ∧ findNaive p (findNaive p x) = findNaive p x := by
  rw [findNaive_eq h, findNaive_eq h] at e
  rw [findNaive_eq h, findNaive_eq h]
  exact ⟨e ▸ root_le h y, root_idem h x⟩

theorem findNaive_find {p : Parents} (h : AInv p) (a : Nat) :
    (find p a).2 = findNaive p a ∧ ∀ y, findNaive (find p a).1 y = findNaive p y := by
  obtain ⟨i1, i2, i3, _⟩ := find_spec p a h
  exact ⟨by rw [i2, findNaive_eq h], fun y => by rw [findNaive_eq i1, findNaive_eq h, i3]⟩

theorem findNaive_union {p : Parents} (h : AInv p) (a b : Nat) :
    let ra := findNaive p a
    let rb := findNaive p b
    (union p a b).2 = (if ra ≠ rb then (min ra rb, max ra rb) else (ra, ra)) ∧
    ∀ x, findNaive (union p a b).1 x =
      if ra ≠ rb ∧ findNaive p x = max ra rb then min ra rb else findNaive p x := by
  obtain ⟨i1, i2, i3⟩ := union_spec p a b h
  simp only [findNaive_eq h, findNaive_eq i1]
  exact ⟨i2, i3⟩

theorem findNaive_reset (p : Parents) (x : Nat) : findNaive (reset p) x = x := by
  rw [findNaive_eq (AInv.of_id (par_reset p)), root_of_id (par_reset p)]

/-- `parents[i] ≤ i` holds after every operation sequence. -/
theorem C17_inv (ops : List Op) : AInv (run ops #[]) :=
  (Good.run ops).inv

/-- **Same class iff connected.** After any sequence of `union / find / reserve / reset`,
`find_naive x = find_naive y` exactly when `x` and `y` are connected by the unions performed
since the last reset. -/
theorem C17_partition (ops : List Op) (x y : Nat) :
    findNaive (run ops #[]) x = findNaive (run ops #[]) y ↔ Conn (unionsOf ops) x y := by
  rw [findNaive_eq (C17_inv ops), findNaive_eq (C17_inv ops)]
  exact (Good.run ops).iff x y

/-- **The representative is the minimum id of its class.** -/
theorem C17_min (ops : List Op) (x y : Nat)
    (h : findNaive (run ops #[]) y = findNaive (run ops #[]) x) :
    findNaive (run ops #[]) x ≤ y ∧
      findNaive (run ops #[]) (findNaive (run ops #[]) x) = findNaive (run ops #[]) x :=
  findNaive_min (C17_inv ops) h

/-- **Path compression never changes the partition**, and `find` answers like `find_naive`. -/
theorem C17_find (ops : List Op) (a : Nat) :
    let p := run ops #[]
    (find p a).2 = findNaive p a ∧ ∀ y, findNaive (find p a).1 y = findNaive p y :=
  findNaive_find (C17_inv ops) a

/-- `union` returns `(min, max)` of the two old representatives (or the common one twice),
and the new representative function is the old one with the larger root redirected. -/
theorem C17_union (ops : List Op) (a b : Nat) :
    let p := run ops #[]
    let ra := findNaive p a
    let rb := findNaive p b
    (union p a b).2 = (if ra ≠ rb then (min ra rb, max ra rb) else (ra, ra)) ∧
    ∀ x, findNaive (union p a b).1 x =
      if ra ≠ rb ∧ findNaive p x = max ra rb then min ra rb else findNaive p x :=
  findNaive_union (C17_inv ops) a b

/-- `reset` makes every id its own representative. -/
theorem C17_reset (ops : List Op) (x : Nat) : findNaive (run (ops ++ [.reset]) #[]) x = x := by
  have e : run (ops ++ [.reset]) #[] = reset (run ops #[]) := by
    simp only [run, List.foldl_append, List.foldl_cons, List.foldl_nil, step]
  rw [e, findNaive_reset]

/-- non-vacuity: a concrete run where two distinct ids are merged and a third is not -/
example :
    let p := run [.union 3 5, .union 5 1, .find 5, .reserve 9] #[]
    findNaive p 3 = 1 ∧ findNaive p 5 = 1 ∧ findNaive p 4 = 4 := by decide +kernel

end EgglogVerif.UF
