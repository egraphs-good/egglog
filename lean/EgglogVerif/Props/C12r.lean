import EgglogVerif.Props.C12
/-
C12 — the rule layer of the proof checker: "the checker accepts a proof only if each step is
justified by that program".

`Derivable prog terms leaf` is the least set of propositions that contains the leaf propositions
(MergeFn steps), `t = t` for literals, the propositions of the program's TOP-LEVEL ACTIONS, and is
closed under symmetry, transitivity, congruence and the RULES OF THE CHECKING PROGRAM (a rule
instance whose body facts are all derivable yields its head propositions).  `C12_rule_sound`: a
proof the checker accepts against `prog` proves only derivable propositions — for every closed
set `D`, hence for the least one (`C12_accepted_derivable`).  Consequently
(`C12_altered_program_rejected`) the same proof checked against an altered program that no
longer derives its conclusion is rejected; the theorems after it are the single-point forms: a
removed rule, a rule that gained or lost a body fact, a premise that does not match its body fact,
a removed or altered top-level fact.
-/
namespace EgglogVerif.ProofCk

/-- `b` is a subterm of `a` in the term table -/
inductive Reach (terms : Array Term) : Nat → Nat → Prop
  | refl (a : Nat) : Reach terms a a
  | step {a : Nat} {t : Term} {k b : Nat} : terms[a]? = some t → k ∈ t.kids → Reach terms k b → Reach terms a b

/-- the body facts of a rule instance are matched, in order and one for one, by the propositions
`prems` -/
def Matches (terms : Array Term) (σ : List (Nat × Nat)) : List RFact → List (Nat × Nat) → Prop
  | [], [] => True
  | f :: fs, p :: ps =>
    ((f.anyLhs = true ∨ instId terms σ f.lhs = some p.1) ∧ instId terms σ f.rhs = some p.2) ∧ Matches terms σ fs ps
  | _, _ => False

/-- a set of propositions closed under the inference steps the checker knows, for the rules of
one program -/
structure Closed (prog : Prog) (terms : Array Term) (D : Nat → Nat → Prop) : Prop where
  lit : ∀ a t, terms[a]? = some t → t.head ∈ prog.lits → D a a
  fiatEq : ∀ xy ∈ (runActs terms [] prog.globals).eqs, D xy.1 xy.2
  fiatRefl : ∀ x ∈ (runActs terms [] prog.globals).roots, ∀ y, Reach terms x y → D y y
  sym : ∀ a b, D a b → D b a
  trans : ∀ a b c, D a b → D b c → D a c
  congr : ∀ l t t' c c' i tt, D l t → D c c' → terms[t]? = some tt → tt.kids[i]? = some c →
    terms[t']? = some ⟨tt.head, tt.kids.set i c'⟩ → D l t'
  ruleEq : ∀ rl ∈ prog.rules, ∀ σ prems, (∀ p ∈ prems, D p.1 p.2) → Matches terms σ rl.body prems →
    ∀ xy ∈ (runActs terms σ rl.head).eqs, D xy.1 xy.2
  ruleRefl : ∀ rl ∈ prog.rules, ∀ σ prems, (∀ p ∈ prems, D p.1 p.2) → Matches terms σ rl.body prems →
    ∀ x ∈ (runActs terms σ rl.head).roots, ∀ y, Reach terms x y → D y y

/-- what the program derives from the leaf propositions -/
inductive Derivable (prog : Prog) (terms : Array Term) (leaf : Nat → Nat → Prop) : Nat → Nat → Prop
  | leaf {a b} : leaf a b → Derivable prog terms leaf a b
  | lit {a t} : terms[a]? = some t → t.head ∈ prog.lits → Derivable prog terms leaf a a
  | fiatEq {xy : Nat × Nat} : xy ∈ (runActs terms [] prog.globals).eqs → Derivable prog terms leaf xy.1 xy.2
  | fiatRefl {x y} : x ∈ (runActs terms [] prog.globals).roots → Reach terms x y → Derivable prog terms leaf y y
  | sym {a b} : Derivable prog terms leaf a b → Derivable prog terms leaf b a
  | trans {a b c} : Derivable prog terms leaf a b → Derivable prog terms leaf b c → Derivable prog terms leaf a c
  | congr {l t t' c c' i tt} : Derivable prog terms leaf l t → Derivable prog terms leaf c c' →
      terms[t]? = some tt → tt.kids[i]? = some c → terms[t']? = some ⟨tt.head, tt.kids.set i c'⟩ →
      Derivable prog terms leaf l t'
  | ruleEq {rl σ} {prems : List (Nat × Nat)} {xy : Nat × Nat} : rl ∈ prog.rules →
      (∀ p ∈ prems, Derivable prog terms leaf p.1 p.2) → Matches terms σ rl.body prems →
      xy ∈ (runActs terms σ rl.head).eqs → Derivable prog terms leaf xy.1 xy.2
  | ruleRefl {rl σ} {prems : List (Nat × Nat)} {x y} : rl ∈ prog.rules →
      (∀ p ∈ prems, Derivable prog terms leaf p.1 p.2) → Matches terms σ rl.body prems →
      x ∈ (runActs terms σ rl.head).roots → Reach terms x y → Derivable prog terms leaf y y

theorem Derivable.closed (prog : Prog) (terms : Array Term) (leaf : Nat → Nat → Prop) :
    Closed prog terms (Derivable prog terms leaf) where
  lit := fun _ _ => .lit
  fiatEq := fun _ => .fiatEq
  fiatRefl := fun _ hx _ => .fiatRefl hx
  sym := fun _ _ => .sym
  trans := fun _ _ _ => .trans
  congr := fun _ _ _ _ _ _ _ => .congr
  ruleEq := fun _ hrl _ _ hp hm _ => .ruleEq hrl hp hm
  ruleRefl := fun _ hrl _ _ hp hm _ hx _ => .ruleRefl hrl hp hm hx

/-- the least closed set: `Derivable` is below every closed set that contains the leaves -/
theorem Derivable.least {prog : Prog} {terms : Array Term} {leaf D : Nat → Nat → Prop}
    (hD : Closed prog terms D) (hl : ∀ a b, leaf a b → D a b) :
    ∀ {a b}, Derivable prog terms leaf a b → D a b := by
  intro a b h
  induction h with
  | leaf h => exact hl _ _ h
  | lit h1 h2 => exact hD.lit _ _ h1 h2
  | fiatEq h => exact hD.fiatEq _ h
  | fiatRefl hx hr => exact hD.fiatRefl _ hx _ hr
  | sym _ ih => exact hD.sym _ _ ih
  | trans _ _ ih1 ih2 => exact hD.trans _ _ _ ih1 ih2
  | congr _ _ h3 h4 h5 ih1 ih2 => exact hD.congr _ _ _ _ _ _ _ ih1 ih2 h3 h4 h5
  | ruleEq hrl _ hm hxy ih => exact hD.ruleEq _ hrl _ _ ih hm _ hxy
  | ruleRefl hrl _ hm hx hr ih => exact hD.ruleRefl _ hrl _ _ ih hm _ hx _ hr

section
variable {prog : Prog} {terms : Array Term} {σ : List (Nat × Nat)} {prev : List Step} {D : Nat → Nat → Prop}

theorem Closed.eqClosed (hD : Closed prog terms D) : EqClosed terms D :=
  ⟨hD.sym, hD.trans, hD.congr⟩

theorem reach_sound {fuel a b : Nat} (h : reach terms fuel a b = true) : Reach terms a b := by
  fun_induction reach terms fuel a b with
  | case1 a b => cases beq_iff_eq.mp h; exact .refl a
  | case2 fuel a b ih =>
    rcases Bool.or_eq_true_iff.mp h with h | h
    · cases beq_iff_eq.mp h; exact .refl a
    · split at h
      · obtain ⟨k, hk, hr⟩ := List.any_eq_true.mp h
        exact .step ‹_› hk (ih k hr)
      · cases h

theorem propsOk_spec {out : ActOut} {l r : Nat} (h : propsOk terms out l r = true) :
    (l, r) ∈ out.eqs ∨ (l = r ∧ ∃ x ∈ out.roots, Reach terms x l) := by
  simp only [propsOk, Bool.or_eq_true, List.contains_iff_mem, Bool.and_eq_true, beq_iff_eq, List.any_eq_true] at h
  exact h.imp_right fun ⟨hlr, x, hx, hreach⟩ => ⟨hlr, x, hx, reach_sound hreach⟩

theorem factOk_spec {f : RFact} {p : Nat}
    (h : factOk terms σ prev f p = true) :
    ∃ sp, prev[p]? = some sp ∧ (f.anyLhs = true ∨ instId terms σ f.lhs = some sp.lhs) ∧
      instId terms σ f.rhs = some sp.rhs := by
  unfold factOk at h
  split at h
  · simp only [Bool.and_eq_true, Bool.or_eq_true, beq_iff_eq] at h
    exact ⟨_, ‹_›, h⟩
  · cases h

theorem factsOk_pointwise {fs : List RFact} {ps : List Nat} (h : factsOk terms σ prev fs ps = true) :
    fs.length = ps.length ∧ ∀ fp ∈ fs.zip ps, factOk terms σ prev fp.1 fp.2 = true := by
  fun_induction factsOk terms σ prev fs ps with
  | case1 => exact ⟨rfl, List.forall_mem_nil _⟩
  | case2 f fs p ps ih =>
    obtain ⟨hf, hrest⟩ := Bool.and_eq_true_iff.mp h
    obtain ⟨hl, hall⟩ := ih hrest
    exact ⟨congrArg Nat.succ hl, List.forall_mem_cons.mpr ⟨hf, hall⟩⟩
  | case3 => cases h

theorem factsOk_matches (hprev : ∀ s ∈ prev, D s.lhs s.rhs) {fs : List RFact} {ps : List Nat}
    (h : factsOk terms σ prev fs ps = true) :
    ∃ prems : List (Nat × Nat), (∀ q ∈ prems, D q.1 q.2) ∧ Matches terms σ fs prems := by
  fun_induction factsOk terms σ prev fs ps with
  | case1 => exact ⟨[], List.forall_mem_nil _, trivial⟩
  | case2 f fs p ps ih =>
    obtain ⟨hf, hrest⟩ := Bool.and_eq_true_iff.mp h
    obtain ⟨prems, hall, hm⟩ := ih hrest
    obtain ⟨sp, hp, hf⟩ := factOk_spec hf
    exact ⟨(sp.lhs, sp.rhs) :: prems, List.forall_mem_cons.mpr ⟨hprev sp (List.mem_of_getElem? hp), hall⟩, hf, hm⟩
  | case3 => cases h

theorem stepOk_fiat {l r : Nat}
    (h : stepOk prog terms prev ⟨.fiat, l, r⟩ = true) :
    (l = r ∧ isLit prog terms l = true) ∨ propsOk terms (runActs terms [] prog.globals) l r = true := by
  simpa only [stepOk, Bool.or_eq_true, Bool.and_eq_true, beq_iff_eq] using h

theorem stepOk_rule {n : Nat} {ps : List Nat} {l r : Nat}
    (h : stepOk prog terms prev ⟨.rule n ps σ, l, r⟩ = true) :
    ∃ rl, prog.rules[n]? = some rl ∧ factsOk terms (σ ++ globalσ prog terms) prev rl.body ps = true ∧
      propsOk terms (runActs terms (σ ++ globalσ prog terms) rl.head) l r = true := by
  dsimp only [stepOk] at h
  split at h
  · exact ⟨_, ‹_›, Bool.and_eq_true_iff.mp h⟩
  · cases h

theorem propsOk_closed {out : ActOut} {l r : Nat}
    (heq : ∀ xy ∈ out.eqs, D xy.1 xy.2) (hrefl : ∀ x ∈ out.roots, ∀ y, Reach terms x y → D y y)
    (h : propsOk terms out l r = true) : D l r := by
  rcases propsOk_spec h with h | ⟨rfl, x, hx, hreach⟩
  · exact heq _ h
  · exact hrefl x hx _ hreach

theorem stepOk_closed (hD : Closed prog terms D) (hprev : ∀ s ∈ prev, D s.lhs s.rhs) {j : Just} {l r : Nat}
    (hleaf : j = .leaf → D l r) (hok : stepOk prog terms prev ⟨j, l, r⟩ = true) : D l r := by
  refine stepOk_eqClosed hD.eqClosed hprev hleaf (fun hj => ?_) (fun n ps σ hj => ?_) hok
  · subst hj
    rcases stepOk_fiat hok with ⟨rfl, hlit⟩ | hp
    · unfold isLit at hlit
      split at hlit
      · exact hD.lit _ _ ‹_› (List.contains_iff_mem.mp hlit)
      · cases hlit
    · exact propsOk_closed hD.fiatEq hD.fiatRefl hp
  · subst hj
    obtain ⟨rl, hr, hfacts, hhead⟩ := stepOk_rule hok
    have hmem : rl ∈ prog.rules := List.mem_of_getElem? hr
    obtain ⟨prems, hprems, hm⟩ := factsOk_matches hprev hfacts
    exact propsOk_closed (hD.ruleEq rl hmem _ prems hprems hm) (hD.ruleRefl rl hmem _ prems hprems hm) hhead

end

/-- **Soundness of the checker, rule steps included**: every proposition of a proof accepted
against the program `prog` lies in every set that contains the leaf propositions and is closed
under symmetry, transitivity, congruence and the rules of THAT program. -/
theorem C12_rule_sound (prog : Prog) (terms : Array Term) (steps : List Step) (D : Nat → Nat → Prop)
    (hD : Closed prog terms D) (hleaf : ∀ s ∈ steps, s.just = .leaf → D s.lhs s.rhs)
    (hok : checkProof prog terms steps = true) : ∀ s ∈ steps, D s.lhs s.rhs :=
  checkFrom_forall (P := fun s => D s.lhs s.rhs) steps [] (List.forall_mem_nil _)
    (fun s hs _ hprev => stepOk_closed hD hprev (hleaf s hs)) hok

/-- … in particular in the least one: an accepted proof proves only what the checking program
derives from the leaves of the proof. -/
theorem C12_accepted_derivable (prog : Prog) (terms : Array Term) (steps : List Step)
    (hok : checkProof prog terms steps = true) :
    ∀ s ∈ steps, Derivable prog terms (fun a b => ∃ s ∈ steps, s.just = .leaf ∧ s.lhs = a ∧ s.rhs = b) s.lhs s.rhs :=
  C12_rule_sound prog terms steps _ (Derivable.closed prog terms _)
    (fun s hs hj => .leaf ⟨s, hs, hj, rfl, rfl⟩) hok

/-- **Soundness in models**: in every interpretation of the terms that respects congruence and
validates the checking program — its top-level equalities and every instance of its rules — and
the `MergeFn` leaves of the proof, every proposition of an accepted proof holds.  (`C12_sound` of
the equational layer is the case without Rule and Fiat steps.) -/
theorem C12_sound_in_models (prog : Prog) (terms : Array Term) (steps : List Step) (den : Nat → Nat)
    (hc : Congruent terms den)
    (hfiat : ∀ xy ∈ (runActs terms [] prog.globals).eqs, den xy.1 = den xy.2)
    (hrule : ∀ rl ∈ prog.rules, ∀ σ prems, (∀ p ∈ prems, den p.1 = den p.2) → Matches terms σ rl.body prems →
      ∀ xy ∈ (runActs terms σ rl.head).eqs, den xy.1 = den xy.2)
    (hleaf : ∀ s ∈ steps, s.just = .leaf → den s.lhs = den s.rhs)
    (hok : checkProof prog terms steps = true) : ∀ s ∈ steps, den s.lhs = den s.rhs :=
  C12_rule_sound prog terms steps (fun a b => den a = den b)
    { hc.eqClosed with
      lit := fun _ _ _ _ => rfl
      fiatEq := hfiat
      fiatRefl := fun _ _ _ _ => rfl
      ruleEq := hrule
      ruleRefl := fun _ _ _ _ _ _ _ _ _ _ => rfl } hleaf hok

/-- **Alteration of the checking program**: a proof whose conclusion the altered program `prog'`
does not derive (from the proof's own leaves) is rejected when checked against `prog'` — whatever
the alteration was (rule removed, premise added, head changed, top-level fact removed or altered). -/
theorem C12_altered_program_rejected (prog' : Prog) (terms : Array Term) (steps : List Step) (s : Step)
    (hs : s ∈ steps)
    (hnot : ¬ Derivable prog' terms (fun a b => ∃ s ∈ steps, s.just = .leaf ∧ s.lhs = a ∧ s.rhs = b) s.lhs s.rhs) :
    checkProof prog' terms steps = false :=
  Bool.eq_false_iff.mpr fun h => hnot (C12_accepted_derivable prog' terms steps h s hs)

/-- a step that names a rule the program does not have is rejected -/
theorem C12_rule_missing_rejected (prog : Prog) (terms : Array Term) (prev : List Step) (r : Nat)
    (ps : List Nat) (σ : List (Nat × Nat)) (l r' : Nat) (h : prog.rules[r]? = none) :
    stepOk prog terms prev ⟨.rule r ps σ, l, r'⟩ = false :=
  Bool.eq_false_iff.mpr fun hok => by
    obtain ⟨rl, hr, _⟩ := stepOk_rule hok
    cases h.symm.trans hr

/-- an accepted rule step supplies exactly one premise per body fact of the program's rule: a rule
that gained a premise (or a proof that dropped one) is rejected -/
theorem C12_rule_premise_count (prog : Prog) (terms : Array Term) (prev : List Step) (r : Nat)
    (ps : List Nat) (σ : List (Nat × Nat)) (l r' : Nat)
    (h : stepOk prog terms prev ⟨.rule r ps σ, l, r'⟩ = true) :
    ∃ rl, prog.rules[r]? = some rl ∧ rl.body.length = ps.length := by
  obtain ⟨rl, hr, hfacts, _⟩ := stepOk_rule h
  exact ⟨rl, hr, (factsOk_pointwise hfacts).1⟩

theorem C12_dropped_premise_rejected (prog : Prog) (terms : Array Term) (prev : List Step) (r : Nat)
    (rl : Rule) (ps : List Nat) (σ : List (Nat × Nat)) (l r' : Nat)
    (hr : prog.rules[r]? = some rl) (hne : rl.body.length ≠ ps.length) :
    stepOk prog terms prev ⟨.rule r ps σ, l, r'⟩ = false :=
  Bool.eq_false_iff.mpr fun h => by
    obtain ⟨rl', h1, h2⟩ := C12_rule_premise_count prog terms prev r ps σ l r' h
    cases hr.symm.trans h1
    exact hne h2

/-- every body fact of an accepted rule step is matched by the proposition of its own premise -/
theorem C12_rule_fact_checked (prog : Prog) (terms : Array Term) (prev : List Step) (r : Nat)
    (rl : Rule) (ps : List Nat) (σ : List (Nat × Nat)) (l r' : Nat) (hr : prog.rules[r]? = some rl)
    (h : stepOk prog terms prev ⟨.rule r ps σ, l, r'⟩ = true) (i : Nat) (f : RFact) (p : Nat)
    (hf : rl.body[i]? = some f) (hp : ps[i]? = some p) :
    ∃ sp, prev[p]? = some sp ∧ (f.anyLhs = true ∨ instId terms (σ ++ globalσ prog terms) f.lhs = some sp.lhs) ∧
      instId terms (σ ++ globalσ prog terms) f.rhs = some sp.rhs := by
  obtain ⟨rl', hr', hfacts, _⟩ := stepOk_rule h
  cases hr.symm.trans hr'
  exact factOk_spec ((factsOk_pointwise hfacts).2 (f, p)
    (List.mem_of_getElem? (List.getElem?_zip_eq_some.mpr ⟨hf, hp⟩)))

/-- a Fiat step is accepted only for a literal's `t = t` or a proposition of the program's
top-level actions: with the fact removed or altered the step is rejected -/
theorem C12_fiat_unjustified_rejected (prog : Prog) (terms : Array Term) (prev : List Step) (l r : Nat)
    (hlit : ¬ (l = r ∧ isLit prog terms l = true))
    (heq : (l, r) ∉ (runActs terms [] prog.globals).eqs)
    (hrefl : l = r → ∀ x ∈ (runActs terms [] prog.globals).roots, ¬ Reach terms x l) :
    stepOk prog terms prev ⟨.fiat, l, r⟩ = false :=
  Bool.eq_false_iff.mpr fun h => by
    rcases stepOk_fiat h with h | h
    · exact hlit h
    · rcases propsOk_spec h with h | ⟨hlr, x, hx, hreach⟩
      · exact heq h
      · exact hrefl hlr x hx hreach

/-! ### non-vacuity

terms: 0 = A, 1 = G(A), 2 = R(A), 3 = B, 4 = the literal 7.  Rule 0: `(= x (G y)) (R y) ⇒ (union x y)`.
Top-level actions: `(G (A))`, `(R (A))`.  Fiat steps G(A) = G(A), R(A) = R(A); the rule step derives
G(A) = A. -/
section NonVacuity
def exTerms : Array Term := #[⟨0, []⟩, ⟨1, [0]⟩, ⟨2, [0]⟩, ⟨3, []⟩, ⟨4, []⟩]
def exRule : Rule := ⟨[⟨false, .var 0, .app 1 [.var 1]⟩, ⟨true, .app 2 [.var 1], .app 2 [.var 1]⟩], [.union (.var 0) (.var 1)]⟩
def exRuleMore : Rule := { exRule with body := exRule.body ++ [⟨false, .var 9, .app 3 []⟩] }
def exRuleHead : Rule := { exRule with head := [.union (.var 0) (.app 3 [])] }
def exFacts : List Act := [.expr (.app 1 [.app 0 []]), .expr (.app 2 [.app 0 []])]
def exProg (rs : List Rule) : Prog := ⟨rs, exFacts, [4]⟩
def exSteps : List Step := [⟨.fiat, 1, 1⟩, ⟨.fiat, 2, 2⟩, ⟨.rule 0 [0, 1] [(0, 1), (1, 0)], 1, 0⟩, ⟨.sym 2, 0, 1⟩, ⟨.fiat, 4, 4⟩]
example : checkProof (exProg [exRule]) exTerms exSteps = true := by decide +kernel
example : checkProof (exProg [exRuleMore]) exTerms exSteps = false := by decide +kernel
example : checkProof (exProg [exRuleHead]) exTerms exSteps = false := by decide +kernel
example : checkProof (exProg []) exTerms exSteps = false := by decide +kernel
/-- without the top-level facts the Fiat steps are unjustified -/
example : checkProof ⟨[exRule], [], [4]⟩ exTerms exSteps = false := by decide +kernel
/-- with only `(R (A))` left, `G(A) = G(A)` is unjustified; `A = A` (a subterm of `(R (A))`) still is justified -/
example : stepOk ⟨[exRule], [.expr (.app 2 [.app 0 []])], []⟩ exTerms [] ⟨.fiat, 1, 1⟩ = false := by decide +kernel
example : stepOk ⟨[exRule], [.expr (.app 2 [.app 0 []])], []⟩ exTerms [] ⟨.fiat, 0, 0⟩ = true := by decide +kernel
example : checkProof (exProg [exRule]) exTerms [⟨.fiat, 1, 1⟩, ⟨.fiat, 2, 2⟩, ⟨.rule 0 [0] [(0, 1), (1, 0)], 1, 0⟩] = false := by decide +kernel
/-- a refl claim for a subterm of an instantiated head expression is accepted, for any other term it is not -/
example : stepOk (exProg [exRule]) exTerms [⟨.fiat, 1, 1⟩, ⟨.fiat, 2, 2⟩] ⟨.rule 0 [0, 1] [(0, 1), (1, 0)], 0, 0⟩ = true := by decide +kernel
example : stepOk (exProg [exRule]) exTerms [⟨.fiat, 1, 1⟩, ⟨.fiat, 2, 2⟩] ⟨.rule 0 [0, 1] [(0, 1), (1, 0)], 3, 3⟩ = false := by decide +kernel
/-- a global `let` binds a variable that a rule may mention without the step's substitution binding it -/
example : stepOk ⟨[⟨[⟨true, .app 2 [.var 1], .app 2 [.var 1]⟩], [.union (.var 1) (.var 5)]⟩], [.letv 5 (.app 3 []), .expr (.app 2 [.app 0 []])], []⟩
    exTerms [⟨.fiat, 2, 2⟩] ⟨.rule 0 [0] [(1, 0)], 0, 3⟩ = true := by decide +kernel
end NonVacuity

end EgglogVerif.ProofCk
