import EgglogVerif.Model.Atom
/-
C15 — atoms at character level: what the printer writes for a literal is read back as that literal.

`C15_int_token`: for every `i64`, Rust's decimal `Display` is classified as that integer.
`C15_bool_token`.  `C15_digits_token`: a token made of digits only is always a NUMBER (an `i64`, or
float syntax beyond the `i64` range) — never a symbol and never an error; the printer relies on
this for floats of magnitude ≥ 2^63, which it writes as bare digits.  `C15_symbol_token`: a token
that does not start like a number and is none of `true`, `false`, `NaN`, `inf` is a symbol.
-/
namespace EgglogVerif.Atom

/-! ### the classifier with its reserved words spelt out

The kernel evaluates `"…".toList` only by running the UTF-8 decoder, again for each of the eight literals of
`classify` and `wordSyntax` that an evaluation reaches.  `String.toList_ofList` reads the characters off a
literal instead; the two equations below do so once for the reserved words, and every proof in this file
starts from them. -/

theorem wordSyntax_eq (cs : List Char) : wordSyntax cs =
    (lower (stripSign cs) == ['i', 'n', 'f'] || lower (stripSign cs) == ['i', 'n', 'f', 'i', 'n', 'i', 't', 'y']
      || lower (stripSign cs) == ['n', 'a', 'n']) := by
  unfold wordSyntax
  rw [String.toList_ofList, String.toList_ofList, String.toList_ofList]

theorem classify_eq (cs : List Char) : classify cs =
    if cs = ['t', 'r', 'u', 'e'] then .bool true
    else if cs = ['f', 'a', 'l', 's', 'e'] then .bool false
    else match parseI64 cs with
      | some i => .int i
      | none =>
        if cs = ['N', 'a', 'N'] then .nan
        else if cs = ['i', 'n', 'f'] then .inf
        else if cs = ['-', 'i', 'n', 'f'] then .ninf
        else if wordSyntax cs then .atom
        else if numberSyntax (stripSign cs) then .num
        else .atom := by
  unfold classify
  rw [String.toList_ofList, String.toList_ofList, String.toList_ofList, String.toList_ofList, String.toList_ofList]
  rfl

theorem classify_of_parseI64 {cs : List Char} {i : Int} (h : parseI64 cs = some i) : classify cs = .int i := by
  rw [classify_eq, if_neg, if_neg, h]
  -- `true` and `false`, which are tried first, are not integers
  all_goals rintro rfl; cases h

/-- what is neither an `i64` nor one of the five words spelt exactly is told apart by its syntax -/
theorem classify_of_not_reserved {cs : List Char} (hp : parseI64 cs = none)
    (ht : cs ≠ ['t', 'r', 'u', 'e']) (hf : cs ≠ ['f', 'a', 'l', 's', 'e']) (hn : cs ≠ ['N', 'a', 'N'])
    (hi : cs ≠ ['i', 'n', 'f']) (hni : cs ≠ ['-', 'i', 'n', 'f']) :
    classify cs = if wordSyntax cs then .atom else if numberSyntax (stripSign cs) then .num else .atom := by
  rw [classify_eq, if_neg ht, if_neg hf, hp]
  show (if _ then _ else _) = _
  rw [if_neg hn, if_neg hi, if_neg hni]

theorem stripSign_cons {c : Char} (cs : List Char) (hm : c ≠ '-') (hp : c ≠ '+') :
    stripSign (c :: cs) = c :: cs :=
  stripSign.eq_3 _ (fun _ e => hm (List.head_eq_of_cons_eq e)) (fun _ e => hp (List.head_eq_of_cons_eq e))

theorem parseI64_cons {c : Char} (cs : List Char) (hm : c ≠ '-') (hp : c ≠ '+') :
    parseI64 (c :: cs) =
      if allDigits (c :: cs) && digitsVal (c :: cs) < 2 ^ 63 then some (digitsVal (c :: cs) : Int) else none :=
  parseI64.eq_3 _ (fun _ e => hm (List.head_eq_of_cons_eq e)) (fun _ e => hp (List.head_eq_of_cons_eq e))

/-! ### digit-only tokens -/

theorem allDigits_iff {ds : List Char} : allDigits ds = true ↔ ds ≠ [] ∧ ∀ c ∈ ds, c.isDigit = true := by
  simp [allDigits]

theorem ne_of_isDigit {c x : Char} (hc : c.isDigit = true) (hx : x.isDigit = false) : c ≠ x :=
  fun e => by rw [e, hx] at hc; cases hc

theorem toLower_of_isDigit {c : Char} (hc : c.isDigit = true) : c.toLower = c := by
  have h : ¬ (c.val ≥ 'A'.val ∧ c.val ≤ 'Z'.val) := fun h' => by
    simp only [Char.isDigit, Bool.and_eq_true, decide_eq_true_eq] at hc
    exact absurd (UInt32.le_trans h'.1 hc.2) (by decide)
  simp only [Char.toLower, h, dite_false]

theorem wordSyntax_cons_digit {c : Char} (cs : List Char) (hc : c.isDigit = true) : wordSyntax (c :: cs) = false := by
  have hne {x : Char} (hx : x.isDigit = false) : c ≠ x := ne_of_isDigit hc hx
  simp only [wordSyntax_eq, stripSign_cons cs (hne rfl) (hne rfl), lower, List.map_cons, toLower_of_isDigit hc,
    List.cons_beq_cons, beq_false_of_ne (hne (x := 'i') rfl), beq_false_of_ne (hne (x := 'n') rfl),
    Bool.false_and, Bool.or_self]

theorem numberSyntax_digits {ds : List Char} (h : allDigits ds = true) : numberSyntax ds = true := by
  obtain ⟨hne, hall⟩ := allDigits_iff.mp h
  have ht : ds.takeWhile Char.isDigit = ds := by simpa using List.takeWhile_append_of_pos (l₂ := []) hall
  have hd : ds.dropWhile Char.isDigit = [] := by simpa using List.dropWhile_append_of_pos (l₂ := []) hall
  simp [numberSyntax, ht, hd, expOk, hne]

theorem classify_digits {ds : List Char} (h : allDigits ds = true) :
    classify ds = if digitsVal ds < 2 ^ 63 then .int (digitsVal ds) else .num := by
  obtain ⟨hne, hall⟩ := allDigits_iff.mp h
  obtain ⟨c, cs, rfl⟩ := List.exists_cons_of_ne_nil hne
  have hc := hall c List.mem_cons_self
  have hne {x : Char} (hx : x.isDigit = false) : c ≠ x := ne_of_isDigit hc hx
  have hp := parseI64_cons cs (hne rfl) (hne rfl)
  simp only [h, Bool.true_and, decide_eq_true_eq] at hp
  split
  next hv => exact classify_of_parseI64 (hp.trans (if_pos hv))
  next hv =>
    -- no reserved word starts with a digit
    have hw {x : Char} {w : List Char} (hx : x.isDigit = false) : c :: cs ≠ x :: w :=
      mt List.head_eq_of_cons_eq (hne hx)
    rw [classify_of_not_reserved (hp.trans (if_neg hv)) (hw rfl) (hw rfl) (hw rfl) (hw rfl) (hw rfl),
      wordSyntax_cons_digit cs hc, stripSign_cons cs (hne rfl) (hne rfl), numberSyntax_digits h]
    rfl

/-- **digit-only tokens are numbers**: an `i64`, or float syntax — never a symbol, never an error -/
theorem C15_digits_token (ds : List Char) (h : allDigits ds = true) :
    (∃ i, classify ds = .int i) ∨ classify ds = .num := by
  rw [classify_digits h]
  split
  · exact .inl ⟨_, rfl⟩
  · exact .inr rfl

/-- **what the float printer relies on**: a digit-only token whose value does not fit in an `i64`
is float syntax (the printer writes floats of magnitude ≥ 2^63 as bare digits) -/
theorem C15_big_digits_token (ds : List Char) (h : allDigits ds = true) (hbig : 2 ^ 63 ≤ digitsVal ds) :
    classify ds = .num := by
  rw [classify_digits h, if_neg (Nat.not_lt.mpr hbig)]

example : classify "9223372036854775808".toList = .num := by
  rw [String.toList_ofList]
  exact C15_big_digits_token _ (by decide +kernel) (by decide +kernel)

/-! ### integers and booleans -/

theorem classify_neg_digits {ds : List Char} (h : allDigits ds = true) (hle : digitsVal ds ≤ 2 ^ 63) :
    classify ('-' :: ds) = .int (-(digitsVal ds : Int)) :=
  classify_of_parseI64 (by rw [parseI64, h, Bool.true_and, if_pos (decide_eq_true hle)])

theorem allDigits_toDigits (n : Nat) : allDigits (Nat.toDigits 10 n) = true :=
  allDigits_iff.mpr ⟨Nat.toDigits_ne_nil, fun _ hc => Nat.isDigit_of_mem_toDigits (by decide) (by decide) hc⟩

theorem digitsVal_toDigits (n : Nat) : digitsVal (Nat.toDigits 10 n) = n := Nat.ofDigitChars_ten_toDigits

/-- **integers**: the decimal spelling of an `i64` is read back as that integer -/
theorem C15_int_token (i : Int) (hlo : -(2 ^ 63 : Int) ≤ i) (hhi : i < 2 ^ 63) : classify (printInt i) = .int i := by
  fun_cases printInt i
  next h =>
    obtain ⟨n, rfl⟩ := Int.exists_eq_neg_ofNat (Int.le_of_lt h)
    have hn : n ≤ 2 ^ 63 := Int.ofNat_le.mp (Int.neg_le_neg_iff.mp hlo)
    rw [Int.neg_neg, Int.toNat_natCast, classify_neg_digits (allDigits_toDigits n) (by rwa [digitsVal_toDigits]),
      digitsVal_toDigits]
  next h =>
    obtain ⟨n, rfl⟩ := Int.eq_ofNat_of_zero_le (Int.not_lt.mp h)
    rw [Int.toNat_natCast, classify_digits (allDigits_toDigits n), digitsVal_toDigits, if_pos (Int.ofNat_lt.mp hhi)]

theorem C15_bool_token (b : Bool) : classify (if b then "true".toList else "false".toList) = .bool b := by
  rw [String.toList_ofList, String.toList_ofList, classify_eq]
  cases b <;> decide +kernel

/-! ### symbols -/

theorem numberSyntax_cons_of_not_digit {c : Char} (cs : List Char) (hd : c.isDigit = false) (hdot : c ≠ '.') :
    numberSyntax (c :: cs) = false := by
  rw [numberSyntax, List.takeWhile_cons, List.dropWhile_cons, hd]
  split
  · rename_i r heq; cases heq; exact absurd rfl hdot
  · rfl

/-- **symbols**: a token that does not start like a number and is none of the four reserved words
is a symbol (whatever else it contains) -/
theorem C15_symbol_token (c : Char) (cs : List Char)
    (hd : c.isDigit = false) (hm : c ≠ '-') (hp : c ≠ '+') (hdot : c ≠ '.')
    (ht : c :: cs ≠ "true".toList) (hf : c :: cs ≠ "false".toList)
    (hn : c :: cs ≠ "NaN".toList) (hi : c :: cs ≠ "inf".toList) :
    classify (c :: cs) = .atom := by
  have hpi : parseI64 (c :: cs) = none := by
    simp [parseI64_cons cs hm hp, allDigits, hd]
  rw [String.toList_ofList] at ht hf hn hi
  rw [classify_of_not_reserved hpi ht hf hn hi (mt List.head_eq_of_cons_eq hm), stripSign_cons cs hm hp,
    numberSyntax_cons_of_not_digit cs hd hdot]
  -- whether or not it is `inf`/`infinity`/`nan` in some other case
  cases wordSyntax (c :: cs) <;> rfl

/-! ### the classifier on concrete tokens (these are tests of the model, not theorems about all tokens) -/
example : classify "9223372036854775807".toList = .int 9223372036854775807 := by
  rw [String.toList_ofList, classify_eq, wordSyntax_eq]; decide +kernel
example : classify "9223372036854775808".toList = .num := by
  rw [String.toList_ofList, classify_eq, wordSyntax_eq]; decide +kernel
example : classify "-9223372036854775808".toList = .int (-9223372036854775808) := by
  rw [String.toList_ofList, classify_eq, wordSyntax_eq]; decide +kernel
example : classify "+5".toList = .int 5 := by
  rw [String.toList_ofList, classify_eq, wordSyntax_eq]; decide +kernel
example : classify "1e21".toList = .num := by
  rw [String.toList_ofList, classify_eq, wordSyntax_eq]; decide +kernel
example : classify "1.".toList = .num := by
  rw [String.toList_ofList, classify_eq, wordSyntax_eq]; decide +kernel
example : classify ".5e-3".toList = .num := by
  rw [String.toList_ofList, classify_eq, wordSyntax_eq]; decide +kernel
example : classify ".".toList = .atom := by
  rw [String.toList_ofList, classify_eq, wordSyntax_eq]; decide +kernel
example : classify "-".toList = .atom := by
  rw [String.toList_ofList, classify_eq, wordSyntax_eq]; decide +kernel
example : classify "e5".toList = .atom := by
  rw [String.toList_ofList, classify_eq, wordSyntax_eq]; decide +kernel
example : classify "Infinity".toList = .atom := by
  rw [String.toList_ofList, classify_eq, wordSyntax_eq]; decide +kernel
example : classify "-inf".toList = .ninf := by
  rw [String.toList_ofList, classify_eq, wordSyntax_eq]; decide +kernel
example : classify "+inf".toList = .atom := by
  rw [String.toList_ofList, classify_eq, wordSyntax_eq]; decide +kernel
example : classify "x1".toList = .atom := by
  rw [String.toList_ofList, classify_eq, wordSyntax_eq]; decide +kernel

end EgglogVerif.Atom
