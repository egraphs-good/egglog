import EgglogVerif.Model.Closure
import EgglogVerif.Lemmas.List
/-
C14 — the dirty-id closure of a container rebuild is the full ancestor closure.

A container that changed in place keeps its id, so the rows and the containers that hold it, at
every depth, are only refreshed if their ids are reported dirty.  `C14_closure_exact`: whenever the
worklist loop ends, its result is exactly the set of ancestors (reflexive, transitive) of the
initially dirty ids; `C14_closure_closed`: it is closed under "is contained in";
`C14_closure_total`: with `n` ids it ends within `n + 1` rounds.  The first two are read off the
loop invariant `Inv` (`seen` is closed under `parents` except at the frontier); the third counts
the ids not yet seen.
-/
namespace EgglogVerif.Closure

/-- `b` is `a` or contains it, directly or through further containers -/
inductive Reach (parents : Nat → List Nat) : Nat → Nat → Prop
  | refl (a : Nat) : Reach parents a a
  | step {a p b : Nat} : p ∈ parents a → Reach parents p b → Reach parents a b

def Anc (parents : Nat → List Nat) (dirty : List Nat) (v : Nat) : Prop := ∃ d ∈ dirty, Reach parents d v

theorem Reach.tail {parents : Nat → List Nat} {a b p : Nat} (h : Reach parents a b) (hp : p ∈ parents b) :
    Reach parents a p := by
  induction h with
  | refl a => exact .step hp (.refl p)
  | step h1 _ ih => exact .step h1 (ih hp)

theorem Reach.closed {parents : Nat → List Nat} {Q : Nat → Prop} (hQ : ∀ c, Q c → ∀ p ∈ parents c, Q p)
    {a b : Nat} (h : Reach parents a b) : Q a → Q b := by
  induction h with
  | refl a => exact id
  | step hp _ ih => exact fun ha => ih (hQ _ ha _ hp)

/-! ### one round -/

theorem foldl_addNew_eq (l : List Nat) (fs : List Nat × List Nat) :
    ∃ new, l.foldl addNew fs = (fs.1 ++ new, fs.2 ++ new) ∧ ∀ v, v ∈ new ↔ v ∈ l ∧ v ∉ fs.2 := by
  induction l generalizing fs with
  | nil => exact ⟨[], by simp, by simp⟩
  | cons x xs ih =>
    rw [List.foldl_cons]
    fun_cases addNew fs x with
    | case1 hx =>
      obtain ⟨new, he, hm⟩ := ih fs
      refine ⟨new, he, fun v => ?_⟩
      by_cases hv : v = x <;> simp [hm, hv, hx]
    | case2 hx =>
      obtain ⟨new, he, hm⟩ := ih (fs.1 ++ [x], fs.2 ++ [x])
      refine ⟨x :: new, by rw [he, List.append_assoc, List.append_assoc]; rfl, fun v => ?_⟩
      by_cases hv : v = x <;> simp [hm, hv, hx]

theorem foldl_addNew_frontier (l : List Nat) : ∀ (fs : List Nat × List Nat) (v : Nat),
    v ∈ (l.foldl addNew fs).1 → v ∈ fs.1 ∨ (v ∈ l ∧ v ∉ fs.2) := by
  intro fs v h
  obtain ⟨new, he, hm⟩ := foldl_addNew_eq l fs
  rw [he] at h
  exact (List.mem_append.mp h).imp_right (hm v).mp

theorem roundStep_eq (parents : Nat → List Nat) (frontier seen : List Nat) :
    ∃ new, roundStep parents frontier seen = (new, seen ++ new) ∧
      ∀ v, v ∈ new ↔ (∃ c ∈ frontier, v ∈ parents c) ∧ v ∉ seen := by
  obtain ⟨new, he, hm⟩ := foldl_addNew_eq (frontier.flatMap parents) ([], seen)
  exact ⟨new, by rw [roundStep, he, List.nil_append], fun v => by rw [hm, List.mem_flatMap]⟩

/-! ### the loop -/

theorem loop_nil (parents : Nat → List Nat) (fuel : Nat) (seen : List Nat) :
    loop parents fuel [] seen = some seen := by
  cases fuel <;> rfl

theorem loop_zero_cons (parents : Nat → List Nat) (a : Nat) (as seen : List Nat) :
    loop parents 0 (a :: as) seen = none := rfl

theorem loop_succ_cons (parents : Nat → List Nat) (fuel a : Nat) (as seen : List Nat) :
    loop parents (fuel + 1) (a :: as) seen =
      loop parents fuel (roundStep parents (a :: as) seen).1 (roundStep parents (a :: as) seen).2 := rfl

structure Inv (parents : Nat → List Nat) (dirty frontier seen : List Nat) : Prop where
  sub : ∀ c ∈ frontier, c ∈ seen
  closedOff : ∀ c ∈ seen, c ∉ frontier → ∀ p ∈ parents c, p ∈ seen
  sound : ∀ v ∈ seen, Anc parents dirty v
  start : ∀ d ∈ dirty, d ∈ seen

theorem Inv.init (parents : Nat → List Nat) (dirty : List Nat) : Inv parents dirty dirty dirty where
  sub := fun _ h => h
  closedOff := fun _ hc hn => absurd hc hn
  sound := fun v hv => ⟨v, hv, .refl v⟩
  start := fun _ h => h

theorem Inv.round {parents : Nat → List Nat} {dirty frontier seen : List Nat}
    (h : Inv parents dirty frontier seen) :
    Inv parents dirty (roundStep parents frontier seen).1 (roundStep parents frontier seen).2 := by
  obtain ⟨new, he, hm⟩ := roundStep_eq parents frontier seen
  rw [he]
  refine ⟨fun c hc => List.mem_append_right _ hc, ?_, ?_,
    fun d hd => List.mem_append_left _ (h.start d hd)⟩
  · intro c hc hnf p hp
    have hcs : c ∈ seen := (List.mem_append.mp hc).resolve_right hnf
    by_cases hcf : c ∈ frontier
    · by_cases hps : p ∈ seen
      · exact List.mem_append_left _ hps
      · exact List.mem_append_right _ ((hm p).mpr ⟨⟨c, hcf, hp⟩, hps⟩)
    · exact List.mem_append_left _ (h.closedOff c hcs hcf p hp)
  · intro v hv
    rcases List.mem_append.mp hv with hv | hv
    · exact h.sound v hv
    · obtain ⟨⟨c, hc, hp⟩, -⟩ := (hm v).mp hv
      obtain ⟨d, hd, hr⟩ := h.sound c (h.sub c hc)
      exact ⟨d, hd, hr.tail hp⟩

theorem Inv.loop {parents : Nat → List Nat} {dirty : List Nat} :
    ∀ (fuel : Nat) (frontier seen s : List Nat), Inv parents dirty frontier seen →
      loop parents fuel frontier seen = some s → Inv parents dirty [] s := by
  intro fuel frontier seen s h hl
  fun_induction Closure.loop parents fuel frontier seen with
  | case1 _ _ hf | case3 _ _ _ hf => cases hl; exact List.isEmpty_iff.mp hf ▸ h
  | case2 => cases hl
  | case4 _ _ _ _ ih => exact ih h.round hl

theorem Inv.of_closure {parents : Nat → List Nat} {fuel : Nat} {dirty s : List Nat}
    (h : closure parents fuel dirty = some s) : Inv parents dirty [] s :=
  Inv.loop fuel dirty dirty s (Inv.init parents dirty) h

/-- **closed**: every container holding a dirty id is dirty -/
theorem C14_closure_closed (parents : Nat → List Nat) (fuel : Nat) (dirty s : List Nat)
    (h : closure parents fuel dirty = some s) : ∀ c ∈ s, ∀ p ∈ parents c, p ∈ s :=
  fun c hc => (Inv.of_closure h).closedOff c hc List.not_mem_nil

/-- **exact**: the result is the set of ancestors of the initially dirty ids, at every depth -/
theorem C14_closure_exact (parents : Nat → List Nat) (fuel : Nat) (dirty s : List Nat)
    (h : closure parents fuel dirty = some s) : ∀ v, v ∈ s ↔ Anc parents dirty v :=
  fun v => ⟨(Inv.of_closure h).sound v, fun ⟨d, hd, hr⟩ =>
    hr.closed (C14_closure_closed parents fuel dirty s h) ((Inv.of_closure h).start d hd)⟩

/-! ### totality -/

/-- how many of the ids below `n` are not in `seen` -/
def unseen (n : Nat) (seen : List Nat) : Nat := (List.range n).countP (· ∉ seen)

theorem unseen_le (n : Nat) (seen : List Nat) : unseen n seen ≤ n :=
  Nat.le_trans List.countP_le_length (Nat.le_of_eq List.length_range)

theorem unseen_append_lt {n x : Nat} {seen new : List Nat} (hx : x ∈ new) (hn : x < n) (hs : x ∉ seen) :
    unseen n (seen ++ new) < unseen n seen :=
  countP_lt_of_witness (x := x)
    (fun _ _ h => decide_eq_true fun hm => of_decide_eq_true h (List.mem_append_left _ hm))
    (List.mem_range.2 hn) (decide_eq_true hs) (decide_eq_false (not_not_intro (List.mem_append_right _ hx)))

theorem loop_total {parents : Nat → List Nat} {n : Nat} (hpar : ∀ c p, p ∈ parents c → p < n)
    (fuel : Nat) (frontier seen : List Nat) (h : unseen n seen < fuel) :
    ∃ s, loop parents fuel frontier seen = some s := by
  induction fuel generalizing frontier seen with
  | zero => exact absurd h (Nat.not_lt_zero _)
  | succ fuel ih =>
    cases frontier with
    | nil => exact ⟨seen, loop_nil parents _ seen⟩
    | cons a as =>
      obtain ⟨new, he, hm⟩ := roundStep_eq parents (a :: as) seen
      rw [loop_succ_cons, he]
      cases new with
      | nil => exact ⟨_, loop_nil parents _ _⟩
      | cons x xs =>
        obtain ⟨⟨c, -, hp⟩, hxs⟩ := (hm x).mp List.mem_cons_self
        have := unseen_append_lt (new := x :: xs) List.mem_cons_self (hpar c x hp) hxs
        exact ih (x :: xs) (seen ++ x :: xs) (Nat.lt_of_lt_of_le this (Nat.le_of_lt_succ h))

theorem closure_total {parents : Nat → List Nat} {n fuel : Nat} (dirty : List Nat)
    (hpar : ∀ c p, p ∈ parents c → p < n) (hfuel : n + 1 ≤ fuel) :
    ∃ s, closure parents fuel dirty = some s :=
  loop_total hpar fuel dirty dirty (Nat.lt_of_le_of_lt (unseen_le n dirty) hfuel)

/-- **total**: with container ids below `n`, the loop ends within `n + 1` rounds
(whatever the dirty set: `closure_total`) -/
theorem C14_closure_total (parents : Nat → List Nat) (n fuel : Nat) (dirty : List Nat)
    (hpar : ∀ c p, p ∈ parents c → p < n) (hd : dirty.Nodup) (hlt : ∀ v ∈ dirty, v < n) (hfuel : n + 1 ≤ fuel) :
    ∃ s, closure parents fuel dirty = some s :=
  closure_total dirty hpar hfuel

/-- the closure as a total function of the dirty set, and its characterisation -/
theorem C14_closure (parents : Nat → List Nat) (n : Nat) (dirty : List Nat)
    (hpar : ∀ c p, p ∈ parents c → p < n) (hd : dirty.Nodup) (hlt : ∀ v ∈ dirty, v < n) :
    ∃ s, closure parents (n + 1) dirty = some s ∧ (∀ v, v ∈ s ↔ Anc parents dirty v) :=
  (closure_total dirty hpar (Nat.le_refl _)).imp fun s hs => ⟨hs, C14_closure_exact parents (n + 1) dirty s hs⟩

/-- a three-deep nesting: 0 ∈ container 1 ∈ container 2 ∈ container 3; container 4 is unrelated -/
example : closure (fun v => if v = 0 then [1] else if v = 1 then [2] else if v = 2 then [3] else []) 10 [0]
    = some [0, 1, 2, 3] := by decide +kernel

end EgglogVerif.Closure
