import EgglogVerif.Lemmas.Sexp
/-
C09 — Bad input is rejected cleanly (the part a model can carry).

* Totality: the model lexer and reader are total (`Option` results, structural recursion or fuel): every
  byte string gets an answer, `none` = parse error.  `lexAll_total` makes the fuel bound explicit:
  with `text.length + 1` units of fuel a `none` means that `nextTok` rejected some suffix of the
  text (`C09_lex_total` keeps only the length of that suffix).
* Atomicity of rejected declarations: the front end type-checks a declaration by RECORDING its signature
  and THEN validating the rest (`typecheck_function`: merge expression / output sort; then the shadowing
  check).  `declarePinned` follows the pinned commit (the record survives a later rejection: defect 3, by
  witness); `declare` follows the repaired code (snapshot restored on rejection), and `C09_reject` shows
  that a rejected declaration leaves the environment untouched.
"Never panics" for the real parser / type checker is not a model-level fact: PARTIAL, established by the
fuzzing part of the check.
-/
namespace EgglogVerif.Front

structure Decl where
  name : Nat
  mergeOk : Bool      -- does the merge expression / output sort type-check?
  shadows : Bool      -- does the name clash with a ruleset / variable (checked after typing)?
deriving Repr, DecidableEq

abbrev TypeInfo := List Nat   -- names with a recorded signature

inductive Err | alreadyBound | badMerge | shadowing
deriving Repr, DecidableEq

/-- the pinned pipeline: record, then validate; nothing is rolled back -/
def declarePinned (ti : TypeInfo) (d : Decl) : TypeInfo × Option Err :=
  if d.name ∈ ti then (ti, some .alreadyBound)
  else
    let ti' := d.name :: ti          -- `func_types.insert` happens first
    if !d.mergeOk then (ti', some .badMerge)
    else if d.shadows then (ti', some .shadowing)
    else (ti', none)

/-- the repaired pipeline: the type information is restored when the command is rejected -/
def declare (ti : TypeInfo) (d : Decl) : TypeInfo × Option Err :=
  let r := declarePinned ti d
  match r.2 with
  | some e => (ti, some e)
  | none => r

theorem declare_of_some {ti : TypeInfo} {d : Decl} {e : Err} (h : (declarePinned ti d).2 = some e) :
    declare ti d = (ti, some e) := by
  simp only [declare, h]

theorem declare_of_none {ti : TypeInfo} {d : Decl} (h : (declarePinned ti d).2 = none) :
    declare ti d = declarePinned ti d := by
  simp only [declare, h]

theorem declare_snd (ti : TypeInfo) (d : Decl) : (declare ti d).2 = (declarePinned ti d).2 := by
  cases h : (declarePinned ti d).2 with
  | none => rw [declare_of_none h, h]
  | some e => rw [declare_of_some h]

theorem declarePinned_fst (ti : TypeInfo) (d : Decl) :
    (declarePinned ti d).1 = if d.name ∈ ti then ti else d.name :: ti := by
  simp only [declarePinned, apply_ite Prod.fst, ite_self]

/-- **A rejected declaration has no effect**, for every environment and every declaration. -/
theorem C09_reject (ti : TypeInfo) (d : Decl) (e : Err) (h : (declare ti d).2 = some e) :
    (declare ti d).1 = ti := by
  rw [declare_snd] at h
  rw [declare_of_some h]

/-- … so the same name can be declared correctly afterwards -/
theorem C09_redeclare (ti : TypeInfo) (d : Decl) (hfresh : d.name ∉ ti) (e : Err)
    (h : (declare ti d).2 = some e) :
    (declare (declare ti d).1 { d with mergeOk := true, shadows := false }).2 = none := by
  rw [C09_reject ti d e h, declare_snd]
  simp [declarePinned, hfresh]

theorem C09_accept (ti : TypeInfo) (d : Decl) (h : (declare ti d).2 = none) : d.name ∈ (declare ti d).1 := by
  rw [declare_snd] at h
  rw [declare_of_none h, declarePinned_fst]
  split
  · assumption
  · exact List.mem_cons_self

/-- **Defect 3 at the pinned commit, by witness**: a declaration rejected for its merge
expression stays recorded, so the correct redeclaration is refused. -/
theorem C09_pinned_leak :
    (declarePinned [] ⟨7, false, false⟩).2 = some .badMerge ∧
    (declarePinned (declarePinned [] ⟨7, false, false⟩).1 ⟨7, true, false⟩).2 = some .alreadyBound := by
  decide

end EgglogVerif.Front

namespace EgglogVerif.Sexp

theorem skipWs_suffix (cs : List Char) (b : Bool) : skipWs cs b <:+ cs := by
  fun_induction skipWs cs b with
  | case1 | case6 => exact List.suffix_refl _
  | _ => exact List.IsSuffix.trans ‹_› (List.suffix_cons _ _)

theorem lexOther_suffix (cs acc : List Char) : (lexOther cs acc).2 <:+ cs := by
  rw [lexOther_eq]; exact List.dropWhile_suffix _

theorem lexString_suffix {cs : List Char} {esc : Bool} {acc s rest : List Char}
    (h : lexString cs esc acc = some (s, rest)) : rest <:+ cs := by
  fun_induction lexString cs esc acc with
  | case1 | case9 => cases h
  | case2 => cases h; exact List.suffix_cons _ _
  | _ => rename_i ih; exact (ih h).trans (List.suffix_cons _ _)

theorem nextTok_suffix_tail {cs : List Char} {t : Tok} {rest : List Char} :
    nextTok cs = some (some (t, rest)) → ∃ c r, skipWs cs false = c :: r ∧ rest <:+ r := by
  fun_cases nextTok cs with
  | case1 | case4 => intro h; cases h
  | case2 r hk | case3 r hk => intro h; cases h; exact ⟨_, _, hk, List.suffix_refl _⟩
  | case5 r s r' hl hk => intro h; cases h; exact ⟨_, _, hk, lexString_suffix hl⟩
  | case6 c r hk _ _ _ s r' hl =>
    intro h; cases h
    exact ⟨_, _, hk, by have := lexOther_suffix r [c]; rwa [hl] at this⟩

theorem nextTok_suffix {cs : List Char} {t : Tok} {rest : List Char} (h : nextTok cs = some (some (t, rest))) :
    rest <:+ cs := by
  obtain ⟨c, r, hk, hr⟩ := nextTok_suffix_tail h
  exact hr.trans ((List.suffix_cons c r).trans (hk ▸ skipWs_suffix cs false))

/-- every token consumes at least one character -/
theorem nextTok_shrinks (cs : List Char) (t : Tok) (rest : List Char) (h : nextTok cs = some (some (t, rest))) :
    rest.length < cs.length := by
  obtain ⟨c, r, hk, hr⟩ := nextTok_suffix_tail h
  have h1 := (skipWs_suffix cs false).length_le
  rw [hk, List.length_cons] at h1
  exact Nat.lt_of_lt_of_le (Nat.lt_succ_of_le hr.length_le) h1

theorem lexAll_total {fuel : Nat} {cs : List Char} (hf : cs.length < fuel) (h : lexAll fuel cs = none) :
    ∃ rest, rest <:+ cs ∧ nextTok rest = none := by
  fun_induction lexAll fuel cs with
  | case1 => exact absurd hf (Nat.not_lt_zero _)
  | case2 _ cs hn => exact ⟨cs, List.suffix_refl cs, hn⟩
  | case3 => cases h
  | case4 _ cs t rest hn ih =>
    have hf' := Nat.lt_of_lt_of_le (nextTok_shrinks cs t rest hn) (Nat.le_of_lt_succ hf)
    obtain ⟨r, hr, hn'⟩ := ih hf' (Option.map_eq_none_iff.1 h)
    exact ⟨r, hr.trans (nextTok_suffix hn), hn'⟩

/-- **The lexer is total with an explicit bound**: with `text.length + 1` units of fuel a `none`
result is always a genuine lexing error (some `nextTok` call rejected a suffix of the input —
missing end quote or unknown escape), never fuel exhaustion: every byte string is either
tokenised or rejected. -/
theorem C09_lex_total : ∀ (fuel : Nat) (cs : List Char), cs.length < fuel →
    lexAll fuel cs ≠ none ∨ ∃ rest : List Char, rest.length ≤ cs.length ∧ nextTok rest = none := by
  intro fuel cs hf
  refine Decidable.not_or_of_imp fun h => ?_
  obtain ⟨r, hr, hn⟩ := lexAll_total hf h
  exact ⟨r, hr.length_le, hn⟩

end EgglogVerif.Sexp
