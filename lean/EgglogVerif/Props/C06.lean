import EgglogVerif.Props.C17
import EgglogVerif.Props.C05
import EgglogVerif.Props.C01
/-
C06 — Results do not depend on the number of threads (the part a model can carry).

The parallel implementations differ from the serial ones in (a) the ORDER in which pending unions
and writes are applied and (b) the PARTITION of the writes into shards and batches.
* `C06_union_order`: the union-find reached after a set of unions is the same function whatever
  the order of the unions (representatives are class minima, C17).
* `C06_shards`: a table's contents do not depend on the shard assignment, the number of shards or
  the batching of the pending writes (re-statement of C05 for the parallel path).
* `C06_equalities_order_independent`, `C06_ops_order_independent`: two canonical e-graph states whose histories
  hold the same unions and the same inserted rows, as sets, identify the same ids (`Inv.exact` twice).
OS scheduling, the `unsafe` shard writes and memory ordering are outside the model (PARTIAL).
-/
namespace EgglogVerif.UF

/-- op lists that only contain unions -/
def unionsOnly (us : List (Nat × Nat)) : List Op := us.map fun p => Op.union p.1 p.2

theorem unionsOf_unionsOnly (us : List (Nat × Nat)) : unionsOf (unionsOnly us) = us.reverse := by
  rw [unionsOf, unionsOnly, List.foldl_map]
  exact List.foldl_flip_cons_eq_append'.trans (List.append_nil _)

/-- The representative is the least id of its class (C17), so it is a function of the connectivity alone, and
a coarser connectivity can only lower it; for ANY two operation sequences. -/
theorem findNaive_anti {ops ops' : List Op} (h : ∀ x y, Conn (unionsOf ops) x y → Conn (unionsOf ops') x y)
    (x : Nat) : findNaive (run ops' #[]) x ≤ findNaive (run ops #[]) x := by
  -- the representative under `ops` is connected to `x` by `ops`, hence by `ops'`, where the least such id represents
  have c := (C17_partition ops _ x).mp (C17_min ops x x rfl).2
  exact (C17_min ops' x _ ((C17_partition ops' _ x).mpr (h _ _ c))).1

theorem rep_le_of_subset {us vs : List (Nat × Nat)} (h : us ⊆ vs) (x : Nat) :
    findNaive (run (unionsOnly vs) #[]) x ≤ findNaive (run (unionsOnly us) #[]) x := by
  refine findNaive_anti (fun _ _ => Conn.mono fun p hp => ?_) x
  rw [unionsOf_unionsOnly, List.mem_reverse] at hp ⊢
  exact h hp

/-- **The union-find does not depend on the order in which the unions are applied**: two
permutations of the same unions yield the same representative for every id. -/
theorem C06_union_order (us vs : List (Nat × Nat)) (h : us.Perm vs) (x : Nat) :
    findNaive (run (unionsOnly us) #[]) x = findNaive (run (unionsOnly vs) #[]) x :=
  Nat.le_antisymm (rep_le_of_subset h.symm.subset x) (rep_le_of_subset h.subset x)

end EgglogVerif.UF

namespace EgglogVerif.Merge
variable {K V : Type} [DecidableEq K] [DecidableEq V]

/-- **Shard assignment, shard count and batching are unobservable**: for every associative merge,
every shard function and every two shard counts the per-shard parallel insertion stores the same
value at every key. -/
theorem C06_shards {m : V → V → V} (hassoc : ∀ a b c, m (m a b) c = m a (m b c))
    (shard₁ shard₂ : K → Nat) (n₁ n₂ : Nat) (t : Tbl K V) (ws : List (K × V)) (k : K) :
    parallelInsert m (fun k => shard₁ k % (n₁ + 1)) (List.range (n₁ + 1)) t ws k =
    parallelInsert m (fun k => shard₂ k % (n₂ + 1)) (List.range (n₂ + 1)) t ws k := by
  -- either side is `runBatch` on the parallel path, which is serial insertion whatever the sharding
  exact (congrFun (runBatch_eq hassoc shard₁ t (.parallel n₁, ws)) k).trans
    (congrFun (runBatch_eq hassoc shard₂ t (.parallel n₂, ws)) k).symm

end EgglogVerif.Merge

namespace EgglogVerif.EGraph

/-- **The equalities of the e-graph do not depend on the order, interleaving or batching in which
the same unions and row insertions were applied** (nor on when rebuild passes ran in between):
two canonical states whose histories contain the same unions and the same inserted rows — as
SETS — identify exactly the same ids.  This is what makes "apply the pending unions and writes
of an iteration in parallel, in whatever order the threads get to them" agree with the serial
engine on every equality. -/
theorem C06_equalities_order_independent {ds : Nat → Decl} {g1 g2 : EG} {U1 U2 : List (Nat × Nat)} {R1 R2 : List IRow}
    (i1 : Inv ds g1 U1 R1) (i2 : Inv ds g2 U2 R2) (c1 : Canonical g1) (c2 : Canonical g2)
    (hU : ∀ p, p ∈ U1 ↔ p ∈ U2) (hR : ∀ r, r ∈ R1 ↔ r ∈ R2) (a b : Int) :
    g1.find a = g1.find b ↔ g2.find a = g2.find b := by
  rw [i1.exact c1, i2.exact c2]
  exact ⟨CC.mono (fun p => (hU p).mp) (fun r => (hR r).mp), CC.mono (fun p => (hU p).mpr) (fun r => (hR r).mpr)⟩

/-- in particular for two op sequences that are permutations of each other, each followed by a
rebuild that reports its fixpoint -/
theorem C06_ops_order_independent (decls : Array Decl) (ops1 ops2 : List GOp) (fuel : Nat)
    (hU : ∀ p, p ∈ ((Traced.mk (EG.init decls) [] []).run ops1).U ↔ p ∈ ((Traced.mk (EG.init decls) [] []).run ops2).U)
    (hR : ∀ r, r ∈ ((Traced.mk (EG.init decls) [] []).run ops1).R ↔ r ∈ ((Traced.mk (EG.init decls) [] []).run ops2).R)
    (h1 : (rebuild fuel ((Traced.mk (EG.init decls) [] []).run ops1).g).2 = true)
    (h2 : (rebuild fuel ((Traced.mk (EG.init decls) [] []).run ops2).g).2 = true) (a b : Int) :
    (rebuild fuel ((Traced.mk (EG.init decls) [] []).run ops1).g).1.find a = (rebuild fuel ((Traced.mk (EG.init decls) [] []).run ops1).g).1.find b ↔
    (rebuild fuel ((Traced.mk (EG.init decls) [] []).run ops2).g).1.find a = (rebuild fuel ((Traced.mk (EG.init decls) [] []).run ops2).g).1.find b := by
  have i1 := Inv.rebuild fuel (C01_reach decls ops1)
  have i2 := Inv.rebuild fuel (C01_reach decls ops2)
  have c1 := (rebuild_canonical fuel _ (C01_reach decls ops1).wf h1).1
  have c2 := (rebuild_canonical fuel _ (C01_reach decls ops2).wf h2).1
  exact C06_equalities_order_independent i1 i2 c1 c2 hU hR a b

end EgglogVerif.EGraph
