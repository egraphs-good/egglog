import EgglogVerif.Model.Scheduler
/-
C18 — Custom schedulers: what `Matches::instantiate` inserts and what it keeps.

Everything rests on one conservation law (`conserve`): walking a strictly descending index list
and removing each position — by `swapRemove` as the code does, or by `List.eraseIdx` as the
specification does — leaves, together with the tuples read at those positions, a permutation of
the original vector.  Descending order is what makes it work: a removal at `c` only disturbs
positions `≥ c`, and all later indices are smaller.
-/
namespace EgglogVerif.Scheduler

variable {α : Type}

/-- a scheduler that chooses everything applies every match and keeps nothing back -/
theorem C18_chooseAll (ms : List α) (chosen : List Nat) : instantiate ms true chosen = (ms, []) := rfl

theorem exists_eq_append_cons {l : List α} {c : Nat} (h : c < l.length) :
    ∃ p x s, l = p ++ x :: s ∧ p.length = c :=
  ⟨l.take c, l[c], l.drop (c + 1), by rw [List.getElem_cons_drop, List.take_append_drop],
    List.length_take_of_le (Nat.le_of_lt h)⟩

theorem swapRemove_last (p : List α) (x : α) : swapRemove (p ++ [x]) p.length = p := by
  simp [swapRemove]

theorem swapRemove_mid (p : List α) (x : α) (s : List α) (a : α) :
    swapRemove (p ++ x :: (s ++ [a])) p.length = p ++ a :: s := by
  have e : p ++ x :: (s ++ [a]) = (p ++ x :: s) ++ [a] := by simp
  simp only [swapRemove, e, List.getLast?_concat]
  rw [if_neg (by simp), List.append_assoc, List.set_append_right _ _ (Nat.le_refl _), Nat.sub_self,
    List.cons_append, List.set_cons_zero, ← List.cons_append, ← List.append_assoc, List.dropLast_concat]

/-- a removal at position `|p|` leaves the prefix `p` alone and permutes what follows -/
def Removes (rm : List α → Nat → List α) : Prop :=
  ∀ p x s, ∃ s', rm (p ++ x :: s) p.length = p ++ s' ∧ s'.Perm s

theorem swapRemove_removes : Removes (swapRemove (α := α)) := by
  intro p x s
  rcases List.eq_nil_or_concat s with rfl | ⟨ys, a, rfl⟩
  · exact ⟨[], by rw [swapRemove_last, List.append_nil], .refl _⟩
  · rw [List.concat_eq_append]
    exact ⟨a :: ys, swapRemove_mid p x ys a, (List.perm_append_singleton a ys).symm⟩

theorem eraseIdx_removes : Removes (List.eraseIdx (α := α)) := fun p x s =>
  ⟨s, by simp [List.eraseIdx_append_of_length_le], .refl _⟩

/-- the remaining, smaller chosen indices still point at their own tuples -/
theorem swapRemove_getElem_lt (l : List α) (c i : Nat) (hi : i < c) (hc : c < l.length) :
    (swapRemove l c)[i]? = l[i]? := by
  obtain ⟨p, x, s, rfl, rfl⟩ := exists_eq_append_cons hc
  obtain ⟨s', hs', _⟩ := swapRemove_removes p x s
  rw [hs', List.getElem?_append_left hi, List.getElem?_append_left hi]

/-- non-vacuity and the shape of the residual on a concrete case with duplicates and disorder -/
example : instantiate ["a", "b", "c", "d", "e"] false [3, 0, 3] = (["d", "a", "d"], ["e", "b", "c"]) := by decide +kernel

/-- strictly descending index lists, all in range -/
def DescBelow : Nat → List Nat → Prop
  | _, [] => True
  | b, c :: cs => c < b ∧ DescBelow c cs

/-- `f` reads the prefix `p`; the suffix `s` is the part already scrambled by earlier, larger
removals, which no later index reaches -/
theorem conserve {rm : List α → Nat → List α} (hrm : Removes rm) (f : Nat → Option α) :
    ∀ (cs : List Nat) (p s : List α), DescBelow p.length cs → (∀ i, i < p.length → f i = p[i]?) →
      (p ++ s).Perm (cs.filterMap f ++ cs.foldl rm (p ++ s)) := by
  intro cs
  induction cs with
  | nil => intro p s _ _; exact .refl _
  | cons c cs ih =>
    rintro p s ⟨hc, hcs⟩ hf
    obtain ⟨p₁, x, p₂, rfl, rfl⟩ := exists_eq_append_cons hc
    obtain ⟨s', hs', hp⟩ := hrm p₁ x (p₂ ++ s)
    have hx : f p₁.length = some x := by rw [hf _ hc, List.getElem?_eq_getElem hc, List.getElem_of_append rfl rfl]
    have hf₁ : ∀ i, i < p₁.length → f i = p₁[i]? := fun i hi => by
      rw [hf i (Nat.lt_trans hi hc), List.getElem?_append_left hi]
    rw [List.foldl_cons, List.filterMap_cons_some hx, List.append_assoc, List.cons_append, hs']
    exact List.perm_middle.trans (((List.Perm.append_left p₁ hp.symm).trans (ih p₁ s' hcs hf₁)).cons x)

theorem conserve_all {rm : List α → Nat → List α} (hrm : Removes rm) (ms : List α) (cs : List Nat)
    (h : DescBelow ms.length cs) : ms.Perm (cs.filterMap (ms[·]?) ++ cs.foldl rm ms) := by
  have := conserve hrm (ms[·]?) cs ms [] h fun _ _ => rfl
  rwa [List.append_nil] at this

/-- **No match is lost, none is kept twice, none that was chosen stays**: for every match vector
and every index list visited in strictly descending order (what `sort_unstable; dedup; rev` yields)
the residual is, as a multiset, the vector with exactly those positions erased. -/
theorem C18_swapRemove (ms : List α) (cs : List Nat) (h : DescBelow ms.length cs) :
    (cs.foldl swapRemove ms).Perm (cs.foldl List.eraseIdx ms) :=
  -- both are what is left of `ms` beside the same tuples read at `cs`
  (List.perm_append_left_iff _).mp
    ((conserve_all swapRemove_removes ms cs h).symm.trans (conserve_all eraseIdx_removes ms cs h))

theorem swapRemove_perm (l : List α) (c : Nat) (hc : c < l.length) : (swapRemove l c).Perm (l.eraseIdx c) :=
  C18_swapRemove l [c] ⟨hc, trivial⟩

theorem swapRemove_length (l : List α) (c : Nat) (h : c < l.length) : (swapRemove l c).length = l.length - 1 :=
  (swapRemove_perm l c h).length_eq.trans (List.length_eraseIdx_of_lt h)

/-- nothing that was not chosen is lost by one removal step: every other position's tuple is still there -/
theorem swapRemove_keeps (l : List α) (c i : Nat) (hic : i ≠ c) (hi : i < l.length) (hc : c < l.length) :
    ∃ j : Nat, (swapRemove l c)[j]? = l[i]? := by
  rw [List.getElem?_eq_getElem hi]
  exact List.mem_iff_getElem?.mp ((swapRemove_perm l c hc).mem_iff.mpr
    (List.mem_eraseIdx_iff_getElem?.mpr ⟨i, hic, List.getElem?_eq_getElem hi⟩))

theorem descBelow_mono {b b' : Nat} {cs : List Nat} (h : DescBelow b cs) (hb : b ≤ b') : DescBelow b' cs := by
  cases cs with
  | nil => trivial
  | cons c cs => exact ⟨Nat.lt_of_lt_of_le h.1 hb, h.2⟩

theorem insertDesc_desc (x b : Nat) (hx : x < b) : ∀ (cs : List Nat), DescBelow b cs → DescBelow b (insertDesc x cs) := by
  intro cs
  fun_induction insertDesc x cs generalizing b with
  | case1 => intro _; exact ⟨hx, trivial⟩
  | case2 y ys h1 => intro h; exact ⟨hx, h1, h.2⟩
  | case3 => exact id
  | case4 y ys h1 h2 ih => intro h; exact ⟨h.1, ih y (Nat.lt_of_le_of_ne (Nat.le_of_not_gt h1) h2) h.2⟩

theorem sortDedupDesc_desc (n : Nat) (cs : List Nat) (h : ∀ c ∈ cs, c < n) : DescBelow n (sortDedupDesc cs) :=
  List.foldlRecOn cs _ (motive := DescBelow n) trivial fun acc ha c hc => insertDesc_desc c n (h c hc) acc ha

/-- **C18, assembled**: for every match vector and every list of valid indices a scheduler may
choose (any order, with repetitions), the residual handed back for the next step is a permutation
of the matches at the positions that were not chosen. -/
theorem C18_residual (ms : List α) (chosen : List Nat) (h : ∀ c ∈ chosen, c < ms.length) :
    (residual ms chosen).Perm ((sortDedupDesc chosen).foldl List.eraseIdx ms) :=
  C18_swapRemove ms _ (sortDedupDesc_desc ms.length chosen h)

/-- **one step conserves the matches**: what was offered = what fired + what stays pending -/
theorem C18_step_conserves (pending new : List α) (chosen : List Nat) (h : ∀ c ∈ chosen, c < (pending ++ new).length) :
    (pending ++ new).Perm ((offerStep pending new chosen).1 ++ (offerStep pending new chosen).2) :=
  conserve_all swapRemove_removes _ _ (sortDedupDesc_desc _ chosen h)

/-- every index a scheduler chooses is among what it was offered, at every step of a history -/
def ValidRun : List α → List (List α × List Nat) → Prop
  | _, [] => True
  | pending, (new, chosen) :: rest =>
    (∀ c ∈ chosen, c < (pending ++ new).length) ∧ ValidRun (offerStep pending new chosen).2 rest

/-- **C18 over time**: for every history of scheduler steps — any newly found matches, any choices —
every match ever found has either fired exactly once or is still pending: the matches found, as a
multiset, are the matches fired plus the matches pending.  None is lost, none fires twice. -/
theorem C18_offer : ∀ (steps : List (List α × List Nat)) (pending : List α), ValidRun pending steps →
    (pending ++ (steps.map (·.1)).flatten).Perm ((offerRun pending steps).1 ++ (offerRun pending steps).2) := by
  intro steps
  induction steps with
  | nil => intro pending _; simp [offerRun]
  | cons st rest ih =>
    rintro pending ⟨hc, hrest⟩
    simp only [offerRun, List.map_cons, List.flatten_cons]
    -- pending ++ new ++ later ~ fired ++ (pending' ++ later) ~ fired ++ (firedLater ++ pendingFinal)
    rw [← List.append_assoc, List.append_assoc (offerStep pending st.1 st.2).1]
    refine ((C18_step_conserves pending st.1 st.2 hc).append_right _).trans ?_
    rw [List.append_assoc]
    exact (ih _ hrest).append_left _

theorem C18_offer_fresh (steps : List (List α × List Nat)) (hv : ValidRun ([] : List α) steps) :
    ((steps.map (·.1)).flatten).Perm ((offerRun [] steps).1 ++ (offerRun [] steps).2) :=
  C18_offer steps [] hv

/-- a scheduler that lets everything through leaves nothing pending (non-vacuity, and the built-in behaviour) -/
example : offerRun ([] : List Nat) [([10, 11, 12], [2, 0, 0]), ([13], [0, 1])] = ([12, 10, 13, 11], []) := by decide +kernel

end EgglogVerif.Scheduler
