import EgglogVerif.Props.C01
import EgglogVerif.Props.C02
/-
C13 — Subsumed rows stop matching, forever; deleted rows are gone (model level).

The flag is sticky under a merge (`C13_sticky`) and hides the row from matching but not from `check`
(`C13_nomatch`, `C13_check_sees`).  "Forever" is `SubInv`: every subsumed row ever recorded has a subsumed
image modulo the partition; like the completeness half of the C01 invariant it is carried by any step that
`Keeps` every stored row, so by every primitive, rebuild pass and action other than `delete`
(`C13_forever`, `C13_forever_actions`); `C13_subsume` records the row an action subsumes.
-/
namespace EgglogVerif.EGraph

/-- merging two rows for one key keeps the subsumed status of either: **subsumption is sticky**
under re-insertion of the same tuple and under the merge of a subsumed row with a congruent
non-subsumed one, in either order, for every merge behaviour. -/
theorem C13_sticky (g : EG) (d : Decl) (cur new : Row) :
    (mergeRows g d cur new).2.sub = (cur.sub || new.sub) := mergeRows_sub g d cur new

/-- canonicalising a row (what every rebuild pass does) never touches the flag -/
theorem C13_rebuild_keeps_flag (g : EG) (d : Decl) (r : Row) : (g.canonRow d r).sub = r.sub := rfl

/-- inserting into a table never clears the flag of a row already there -/
theorem C13_insert_keeps_subsumed (g : EG) (d : Decl) : ∀ (rows : List Row) (r : Row) (k : List Int),
    (∃ x ∈ rows, x.args = k ∧ x.sub = true) → ∃ x ∈ (insertInto g d rows r).2, x.args = k ∧ x.sub = true := by
  intro rows r k ⟨x, hx, hk, hs⟩
  obtain ⟨x', hx', a, _, s⟩ := insertInto_img g d rows r x (List.mem_cons_of_mem _ hx)
  exact ⟨x', hx', a.trans hk, s hs⟩

/-- **A subsumed row is never matched by a rule** (`include_subsumed = false`), while `check`
(`include_subsumed = true`) still sees it. -/
theorem C13_nomatch (g : EG) (s : Subst) (f : Nat) (args : List Tm) (out : Tm) (s' : Subst)
    (h : s' ∈ matchAtom g false s (.tbl f args out)) :
    ∃ r ∈ g.table f, r.sub = false ∧ (unifyAll s args r.args).bind (fun s1 => unify s1 out r.out) = some s' := by
  obtain ⟨r, hr, hv, e⟩ := mem_matchAtom_tbl.mp h
  exact ⟨r, hr, Bool.eq_false_iff.mpr fun hs => Bool.noConfusion (hv hs), e⟩

theorem C13_check_sees (g : EG) (s : Subst) (f : Nat) (args : List Tm) (out : Tm) (r : Row)
    (hr : r ∈ g.table f) (s' : Subst)
    (hm : (unifyAll s args r.args).bind (fun s1 => unify s1 out r.out) = some s') :
    s' ∈ matchAtom g true s (.tbl f args out) :=
  mem_matchAtom_tbl.mpr ⟨r, hr, fun _ => rfl, hm⟩

/-- **Delete removes exactly the addressed key and leaves every other row as it was.** -/
theorem C13_delete_local (rows : List Row) (k : List Int) (r : Row) :
    r ∈ rows.filter (·.args != k) ↔ r ∈ rows ∧ r.args ≠ k := by
  rw [List.mem_filter, bne_iff_ne]

/-! ### forever

Every later operation keeps every stored row (`Keeps`), flag included. -/

/-- some stored row for the key `args` of table `f` (modulo the current equalities) is subsumed -/
def SubImg (g : EG) (f : Nat) (args : List Int) : Prop :=
  ∃ y' ∈ g.table f, canonArgs g (g.decl f).argIsId y'.args = canonArgs g (g.decl f).argIsId args ∧ y'.sub = true

theorem RowImg.subImg {g : EG} {f : Nat} {y : Row} (hi : RowImg g (g.decl f) (g.table f) y) (hs : y.sub = true) :
    SubImg g f y.args :=
  let ⟨y', hy', a, _, s⟩ := hi; ⟨y', hy', a, s hs⟩

theorem SubImg.keeps {g g' : EG} (h : g.WF) (k : Keeps g g') {f : Nat} {args} (hi : SubImg g f args) :
    SubImg g' f args := by
  -- `SubImg` is the key and flag clauses of `RowImg`; `y.out` makes the output clause trivial
  obtain ⟨y, hy, a, s⟩ := hi
  exact (k.rowImg h (y := ⟨args, y.out, true⟩) ⟨y, hy, a, fun _ => rfl, fun _ => s⟩).subImg rfl

/-- every key of `S` (table, key) still has a subsumed image -/
structure SubInv (g : EG) (S : List (Nat × List Int)) : Prop where
  wf : g.WF
  sub : ∀ p ∈ S, SubImg g p.1 p.2

theorem SubInv.keeps {g g' : EG} {S} (i : SubInv g S) (k : Keeps g g') : SubInv g' S :=
  ⟨k.wf, fun p hp => (i.sub p hp).keeps i.wf k⟩

theorem SubInv.union {g : EG} {S} (i : SubInv g S) (a b : Int) : SubInv (g.union a b) S :=
  i.keeps (keeps_union i.wf a b)

theorem SubInv.insertRow {g : EG} {S} (i : SubInv g S) (f : Nat) (r : Row) : SubInv (g.insertRow f r) S :=
  i.keeps (keeps_insertRow i.wf f r)

theorem SubInv.lookupOrCreate {g : EG} {S} (i : SubInv g S) (f : Nat) (args : List Int) :
    SubInv (g.lookupOrCreate f args).1 S :=
  i.keeps (keeps_lookupOrCreate i.wf f args)

theorem SubInv.rebuildTable {g : EG} {S} (i : SubInv g S) (f : Nat) : SubInv (rebuildTable g f) S :=
  i.keeps (keeps_rebuildTable i.wf f)

theorem SubInv.rebuildPass {g : EG} {S} (i : SubInv g S) : SubInv (EGraph.rebuildPass g) S :=
  i.keeps (keeps_rebuildPass i.wf)

theorem SubInv.rebuild {S} : ∀ (fuel : Nat) {g : EG}, SubInv g S → SubInv (EGraph.rebuild fuel g).1 S :=
  fun fuel _ i => i.keeps (keeps_rebuild i.wf fuel)

/-- **Once subsumed, subsumed forever.**  `SubInv g S`: every (table, key) of `S` has a stored row,
for a key equal to it modulo the current equalities, that carries the flag.  It is preserved by
every sequence of unions, row insertions (re-insertion of the same tuple included), constructor
calls and rebuild passes. -/
theorem C13_forever {S : List (Nat × List Int)} : ∀ (ops : List GOp) {g : EG}, SubInv g S →
    SubInv (ops.foldl GOp.apply g) S := by
  intro ops g i
  refine List.foldlRecOn ops GOp.apply (motive := fun g => SubInv g S) i fun g i op _ => ?_
  cases op with
  | union a b => exact i.union a b
  | insert f r => exact i.insertRow f r
  | create f args => exact i.lookupOrCreate f args
  | rebuildPass => exact i.rebuildPass

/-- … and by every action of a rule head or top-level command other than `delete`. -/
theorem C13_forever_actions {S : List (Nat × List Int)} {acc : EG × Subst} (i : SubInv acc.1 S) (a : Action)
    (hnd : NoDelete a) : SubInv (runAction acc a).1 S :=
  i.keeps (keeps_runAction acc a i.wf hnd)

/-- **`(subsume (f args))` establishes the flag** for the key it names (whether or not the row
existed), and keeps every earlier one. -/
theorem C13_subsume {S : List (Nat × List Int)} {acc : EG × Subst} (i : SubInv acc.1 S) (f : Nat) (args : List Tm)
    (vs : List Int) (hv : args.mapM (evalTm acc.2) = some vs) (hf : f < acc.1.tables.size) :
    SubInv (runAction acc (.subsume f args)).1 ((f, vs) :: S) := by
  have hold := C13_forever_actions i (.subsume f args) trivial
  refine ⟨hold.wf, List.forall_mem_cons.mpr ⟨?_, hold.sub⟩⟩
  simp only [runAction, hv]
  -- in each case `dsimp only` reduces the `(match … with …).1` that `cases` leaves to the state itself; `exact`
  -- alone would first unfold `insertRow`
  cases hl : lookupRow (acc.1.table f) vs with
  | some r =>
    dsimp only
    obtain rfl := lookupRow_args hl
    exact (insertRow_rowImg i.wf hf { r with sub := true }).subImg rfl
  | none =>
    dsimp only
    have k := keeps_lookupOrCreate i.wf f vs
    exact (insertRow_rowImg k.wf (Nat.lt_of_lt_of_eq hf k.size.symm) ⟨vs, _, true⟩).subImg rfl

/-- **In a canonical database the one stored row for a subsumed key carries the flag** — so
(`C13_nomatch`) no rule matches it and (`C07_subsumed_ignored`) extraction ignores it, while
`check` (`C13_check_sees`) still sees it and it still takes part in congruence (`C01_complete`
is indifferent to the flag). -/
theorem C13_canonical_row {g : EG} {S : List (Nat × List Int)} (i : SubInv g S) (c : Canonical g)
    (f : Nat) (args : List Int) (hm : (f, args) ∈ S) (y : Row) (hy : y ∈ g.table f)
    (hk : y.args = canonArgs g (g.decl f).argIsId args) : y.sub = true := by
  obtain ⟨y', hy', e1, e2⟩ := i.sub (f, args) hm
  obtain rfl : y' = y := c.row_unique hy' hy (by rw [e1, hk, canonArgs_idem i.wf])
  exact e2

end EgglogVerif.EGraph
