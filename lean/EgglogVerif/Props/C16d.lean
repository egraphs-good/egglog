import EgglogVerif.Model.Displaced
import EgglogVerif.Lemmas.UF
import EgglogVerif.Lemmas.List
/-
C16 (the union-find table) — `DisplacedTable` behaves like the keyed map
`{ child ↦ (its current representative, the timestamp at which it was displaced) }` whose keys are
exactly the ids that are not their own representative.

Everything is read off the invariant `DInv`: `lookup_table` is the inverse of the row list, there is one
row per displaced id, and the rows' keys are exactly the non-representatives.  Rows are expanded on demand,
so a scan shows the CURRENT representatives; the pinned `clear` (defect 7) breaks the invariant.  The last
part is about `fast_subset` on the timestamp column of rows in timestamp order.
-/
namespace EgglogVerif.Displaced
open UF

def DT.rt (t : DT) (x : Nat) : Nat := root (par t.uf) x

structure DInv (t : DT) : Prop where
  wf : AInv t.uf
  kids : ∀ x, (∃ ts, (x, ts) ∈ t.displaced) ↔ t.rt x ≠ x
  nodup : (t.displaced.map (·.1)).Nodup
  look : ∀ k i, t.lookup k = some i ↔ ∃ ts, t.displaced[i]? = some (k, ts)

theorem DInv.of_id {p : Parents} (h : ∀ x, par p x = x) : DInv { uf := p } :=
  ⟨AInv.of_id h, fun x => by simp [DT.rt, root_of_id h], List.nodup_nil, fun k i => by simp⟩

theorem DInv.empty : DInv {} := DInv.of_id par_empty

/-- `insert_impl` links the larger of two distinct representatives under the smaller one and gives it a row -/
theorem insert_spec (t : DT) (a b ts : Nat) (h : AInv t.uf) :
    ∃ p, AInv p ∧
      (∀ x, root (par p) x =
        if t.rt a ≠ t.rt b ∧ t.rt x = max (t.rt a) (t.rt b) then min (t.rt a) (t.rt b) else t.rt x) ∧
      t.insert a b ts = if t.rt a = t.rt b then ({ t with uf := p }, none) else
        ({ uf := p, displaced := t.displaced ++ [(max (t.rt a) (t.rt b), ts)],
           lookup := fun k => if k = max (t.rt a) (t.rt b) then some t.displaced.length else t.lookup k },
         some (min (t.rt a) (t.rt b), max (t.rt a) (t.rt b))) := by
  -- each call is named and its `let`-pattern replaced by the pair, as in `UF.union_spec`
  dsimp only [DT.insert]
  rcases e1 : find t.uf a with ⟨p1, ra⟩
  rcases e2 : find p1 b with ⟨p2, rb⟩
  rcases e3 : union p2 a b with ⟨p3, parent, child⟩
  rcases e4 : find p3 parent with ⟨p4, r4⟩
  rcases e5 : find p4 child with ⟨p5, r5⟩
  dsimp only
  obtain ⟨h1, rfl, s1, -⟩ := find_spec_of_eq h e1
  obtain ⟨h2, rfl, s2, -⟩ := find_spec_of_eq h1 e2
  have s12 : ∀ x, root (par p2) x = t.rt x := fun x => by rw [s2, s1]; rfl
  obtain ⟨h3, pc, s3⟩ := union_spec p2 a b h2
  simp only [e3, s12] at h3 pc s3
  obtain ⟨h4, -, s4, -⟩ := find_spec_of_eq h3 e4
  obtain ⟨h5, -, s5, -⟩ := find_spec_of_eq h4 e5
  rw [s1 b, ← DT.rt, ← DT.rt]
  by_cases hab : t.rt a = t.rt b
  · exact ⟨p2, h2, fun x => by rw [s12, if_neg (fun c => c.1 hab)], by rw [if_pos hab, if_pos hab]⟩
  · rw [if_pos hab] at pc
    obtain ⟨rfl, rfl⟩ := Prod.mk.inj pc
    exact ⟨p5, h5, fun x => by rw [s5, s4, s3], by rw [if_neg hab, if_neg hab]⟩

theorem DInv.setUf {t : DT} (i : DInv t) {p : Parents} (hp : AInv p) (hr : ∀ x, root (par p) x = t.rt x) :
    DInv { t with uf := p } :=
  ⟨hp, fun x => (i.kids x).trans (by rw [← hr x]; rfl), i.nodup, i.look⟩

/-- a union: the class of `c` joins that of a smaller `m`, and `c` gets the next row -/
theorem DInv.snoc {t : DT} (i : DInv t) {p : Parents} (hp : AInv p) {c m : Nat} (ts : Nat)
    (hc : t.rt c = c) (hm : m < c) (hr : ∀ x, root (par p) x = if t.rt x = c then m else t.rt x) :
    DInv { uf := p, displaced := t.displaced ++ [(c, ts)],
           lookup := fun k => if k = c then some t.displaced.length else t.lookup k } := by
  have hnew : ∀ ts', (c, ts') ∉ t.displaced := fun ts' hmem => (i.kids c).mp ⟨ts', hmem⟩ hc
  refine ⟨hp, fun x => ?_, ?_, fun k j => ?_⟩
  · -- the displaced ids are the old ones and `c`
    rw [DT.rt, hr]
    simp only [List.mem_append, List.mem_singleton, Prod.mk.injEq, exists_or, exists_and_left, exists_eq, and_true,
      i.kids x]
    split
    · rename_i hxc
      -- `x` was in the class of `c`, so `m < c ≤ x`
      exact ⟨fun _ => Nat.ne_of_lt (Nat.lt_of_lt_of_le hm (hxc ▸ root_le i.wf x)),
        fun _ => if h : x = c then .inr h else .inl (hxc ▸ Ne.symm h)⟩
    · rename_i hxc
      exact ⟨fun h => h.elim id fun e => absurd (e ▸ hc) hxc, .inl⟩
  · rw [List.map_append, List.nodup_append]
    refine ⟨i.nodup, List.pairwise_singleton _ _, fun x hx y hy e => ?_⟩
    obtain ⟨⟨x', ts'⟩, hmem, rfl⟩ := List.mem_map.mp hx
    obtain rfl : y = c := List.mem_singleton.mp hy
    exact hnew ts' (e ▸ hmem)
  · show (if k = c then some t.displaced.length else t.lookup k) = some j ↔
      ∃ ts', (t.displaced ++ [(c, ts)])[j]? = some (k, ts')
    have hlc : ∀ j, t.lookup c ≠ some j := fun j e =>
      (i.look c j).mp e |>.elim fun ts' h => hnew ts' (List.mem_of_getElem? h)
    simp only [getElem?_concat_eq_some, Prod.mk.injEq, exists_or, exists_and_left, exists_eq, and_true, ← i.look k j]
    split
    · rename_i hk
      subst hk
      simp only [hlc, false_or, and_true, Option.some.injEq, eq_comm]
    · rename_i hk
      simp only [hk, and_false, or_false]

theorem DInv.insert {t : DT} (i : DInv t) (a b ts : Nat) : DInv (t.insert a b ts).1 := by
  obtain ⟨p, hp, hr, e⟩ := insert_spec t a b ts i.wf
  by_cases hab : t.rt a = t.rt b
  · rw [e, if_pos hab]
    exact i.setUf hp (fun x => by rw [hr, if_neg (fun c => c.1 hab)])
  · rw [e, if_neg hab]
    obtain ⟨hc, hlt⟩ := max_min_rec (P := fun c m => t.rt c = c ∧ m < c) hab
      (fun h => ⟨root_idem i.wf b, h⟩) (fun h => ⟨root_idem i.wf a, h⟩)
    refine i.snoc hp ts hc hlt (fun x => ?_)
    rw [hr]; simp only [ne_eq, hab, not_false_eq_true, true_and]

theorem DInv.clear (t : DT) : DInv t.clear := DInv.of_id (par_reset t.uf)

inductive DOp where
  | insert (a b ts : Nat)
  | clear

def dstep (t : DT) : DOp → DT
  | .insert a b ts => (t.insert a b ts).1
  | .clear => t.clear

theorem DInv.dstep {t : DT} (i : DInv t) : ∀ op, DInv (dstep t op)
  | .insert a b ts => i.insert a b ts
  | .clear => DInv.clear t

/-- **The invariant holds after every sequence of inserts and clears.** -/
theorem C16_displaced_inv (ops : List DOp) : DInv (ops.foldl dstep {}) :=
  List.foldlRecOn ops dstep DInv.empty fun _ i op _ => i.dstep op

/-- **Point lookups are the keyed map** `child ↦ (current representative, timestamp)`; ids that are
their own representative have no row. -/
theorem C16_displaced_getRow {t : DT} (i : DInv t) (k : Nat) :
    (t.rt k = k → t.getRow k = none) ∧
    (t.rt k ≠ k → ∃ ts, (k, ts) ∈ t.displaced ∧ t.getRow k = some (k, t.rt k, ts)) := by
  constructor
  · intro hk
    unfold DT.getRow
    cases hl : t.lookup k with
    | none => rfl
    | some j =>
      obtain ⟨ts, hj⟩ := (i.look k j).mp hl
      exact absurd hk ((i.kids k).mp ⟨ts, List.mem_of_getElem? hj⟩)
  · intro hk
    obtain ⟨ts, hm⟩ := (i.kids k).mpr hk
    obtain ⟨j, hj⟩ := List.getElem?_of_mem hm
    have hl := (i.look k j).mpr ⟨ts, hj⟩
    refine ⟨ts, hm, ?_⟩
    unfold DT.getRow DT.expand
    rw [hl]
    simp only [Option.bind_some, hj, Option.map_some]
    rw [findNaive_eq i.wf]; rfl

/-- **A full scan returns each displaced id exactly once, with its current representative.** -/
theorem C16_displaced_scan {t : DT} (i : DInv t) :
    (t.scan.map (·.1)).Nodup ∧ ∀ c p ts, (c, p, ts) ∈ t.scan ↔ ((c, ts) ∈ t.displaced ∧ p = t.rt c) := by
  constructor
  · rw [DT.scan, List.map_map]; exact i.nodup
  · intro c p ts
    unfold DT.scan
    simp only [List.mem_map, Prod.mk.injEq]
    constructor
    · rintro ⟨⟨c', ts'⟩, hm, rfl, rfl, rfl⟩
      exact ⟨hm, findNaive_eq i.wf _⟩
    · rintro ⟨hm, rfl⟩
      exact ⟨(c, ts), hm, rfl, findNaive_eq i.wf c, rfl⟩

/-- **`clear` gives a fresh table**: no rows, no lookups, every id its own representative. -/
theorem C16_displaced_clear (t : DT) (k : Nat) : t.clear.scan = [] ∧ t.clear.getRow k = none ∧ t.clear.rt k = k :=
  ⟨rfl, rfl, root_of_id (par_reset t.uf) k⟩

/-- the pinned `clear` breaks the invariant as soon as any row had been displaced -/
theorem not_DInv_clearPinned {t : DT} {k j : Nat} (h : t.lookup k = some j) : ¬ DInv t.clearPinned := fun i => by
  obtain ⟨_, hj⟩ := (i.look k j).mp h
  exact nomatch hj

/-- **Defect 7 (pinned `clear`)**: after a row was displaced, the pinned `clear` leaves a lookup
entry that points at a row which no longer exists. -/
theorem C16_displaced_pinned_clear :
    let t := (({} : DT).insert 0 1 5).1
    t.clearPinned.lookup 1 = some 0 ∧ t.clearPinned.displaced[0]? = none ∧ ¬ DInv t.clearPinned := by
  intro t
  have h : t.lookup 1 = some 0 := by decide
  exact ⟨h, rfl, not_DInv_clearPinned h⟩

/-! ### timestamp-range subsets -/

/-- rows are in non-decreasing timestamp order -/
def TsSorted (d : List (Nat × Nat)) : Prop := d.Pairwise (fun a b => a.2 ≤ b.2)

theorem TsSorted.le_of_mem_dropWhile {p : Nat × Nat → Bool} {d : List (Nat × Nat)} (hs : TsSorted d) :
    ∀ x ∈ d.dropWhile p, ∃ y ∈ d, p y = false ∧ y.2 ≤ x.2 := by
  induction d with
  | nil => nofun
  | cons y ys ih =>
    intro x hx
    have hs' := List.pairwise_cons.mp hs
    rw [List.dropWhile_cons] at hx
    split at hx
    · obtain ⟨z, hz, h⟩ := ih hs'.2 x hx
      exact ⟨z, List.mem_cons_of_mem _ hz, h⟩
    · rename_i hy
      refine ⟨y, List.mem_cons_self, Bool.eq_false_iff.mpr hy, ?_⟩
      rcases List.mem_cons.mp hx with rfl | h1
      · exact Nat.le_refl _
      · exact hs'.1 x h1

theorem ts_segments (d : List (Nat × Nat)) (hs : TsSorted d) (val : Nat) :
    ∃ A B C : List (Nat × Nat), d = A ++ (B ++ C) ∧ (∀ x ∈ A, x.2 < val) ∧ (∀ x ∈ B, x.2 = val) ∧ (∀ x ∈ C, val < x.2) ∧
      tsBounds d val = if A.length < A.length + B.length then .ok (A.length, A.length + B.length) else .error A.length := by
  have hge : ∀ x ∈ d.dropWhile (fun r => r.2 < val), val ≤ x.2 := fun x hx => by
    obtain ⟨y, -, hy, hyx⟩ := hs.le_of_mem_dropWhile x hx
    exact Nat.le_trans (Nat.le_of_not_lt (of_decide_eq_false hy)) hyx
  refine ⟨d.takeWhile (fun r => r.2 < val), (d.dropWhile (fun r => r.2 < val)).takeWhile (fun r => r.2 == val),
    (d.dropWhile (fun r => r.2 < val)).dropWhile (fun r => r.2 == val), ?_, ?_, ?_, ?_, ?_⟩
  · rw [List.takeWhile_append_dropWhile, List.takeWhile_append_dropWhile]
  · intro x hx; exact of_decide_eq_true (List.all_eq_true.mp List.all_takeWhile x hx)
  · intro x hx; exact beq_iff_eq.mp (List.all_eq_true.mp List.all_takeWhile x hx)
  · intro x hx
    obtain ⟨y, hy, hne, hyx⟩ := TsSorted.le_of_mem_dropWhile (hs.sublist (List.dropWhile_sublist _)) x hx
    exact Nat.lt_of_lt_of_le (Nat.lt_of_le_of_ne (hge y hy) (Ne.symm (beq_eq_false_iff_ne.mp hne))) hyx
  · rfl

theorem slice_mid (A B C : List (Nat × Nat)) : slice (A ++ (B ++ C)) (A.length, A.length + B.length) = B := by
  simp [slice]

theorem slice_eq_filter {X Y Z d : List (Nat × Nat)} {r : Nat × Nat} {p : Nat × Nat → Bool}
    (hd : d = X ++ (Y ++ Z)) (hr : r = (X.length, X.length + Y.length))
    (hX : ∀ x ∈ X, p x = false) (hY : ∀ x ∈ Y, p x = true) (hZ : ∀ x ∈ Z, p x = false) :
    slice d r = d.filter p := by
  have hn : ∀ {l : List (Nat × Nat)}, (∀ x ∈ l, p x = false) → l.filter p = [] := fun h =>
    List.filter_eq_nil_iff.mpr fun x hx => Bool.eq_false_iff.mp (h x hx)
  rw [hd, hr, slice_mid, List.filter_append, List.filter_append, hn hX, hn hZ, List.filter_eq_self.mpr hY,
    List.nil_append, List.append_nil]

/-- the range `fast_subset` returns, in terms of the segment lengths -/
def tsForm (a b n : Nat) : TsC → Nat × Nat
  | .lt => (0, a) | .le => (0, a + b) | .gt => (a + b, n) | .ge => (a, n) | .eq => (a, a + b)

theorem tsRange_eq {d : List (Nat × Nat)} {val a b : Nat} (k : TsC)
    (hb : tsBounds d val = if a < a + b then .ok (a, a + b) else .error a) :
    tsRange d k val = if k = .eq ∧ b = 0 then none else some (tsForm a b d.length k) := by
  unfold tsRange
  rw [hb]
  by_cases h0 : b = 0
  · subst h0
    rw [if_neg (show ¬ a < a + 0 from Nat.lt_irrefl a)]
    cases k <;> rfl
  · rw [if_pos (Nat.lt_add_of_pos_right (Nat.pos_of_ne_zero h0)), if_neg (fun c => h0 c.2)]
    cases k <;> rfl

/-- the range and what it selects, in terms of the same two numbers (in the proof: how many rows lie below
and at the value) -/
theorem ts_filter (d : List (Nat × Nat)) (hs : TsSorted d) (k : TsC) (val : Nat) :
    ∃ a b, tsRange d k val = (if k = .eq ∧ b = 0 then none else some (tsForm a b d.length k)) ∧
      slice d (tsForm a b d.length k) = d.filter (fun row => k.sat val row.2) := by
  obtain ⟨A, B, C, hd, hA, hB, hC, hb⟩ := ts_segments d hs val
  refine ⟨A.length, B.length, tsRange_eq k hb, ?_⟩
  have hAB : ∀ x ∈ A ++ B, x.2 ≤ val := fun x hx =>
    (List.mem_append.mp hx).elim (fun h => Nat.le_of_lt (hA x h)) (fun h => Nat.le_of_eq (hB x h))
  have hBC : ∀ x ∈ B ++ C, val ≤ x.2 := fun x hx =>
    (List.mem_append.mp hx).elim (fun h => Nat.le_of_eq (hB x h).symm) (fun h => Nat.le_of_lt (hC x h))
  have hd' : d = (A ++ B) ++ C := hd.trans (List.append_assoc A B C).symm
  have hlen : d.length = A.length + B.length + C.length := by
    rw [hd', List.length_append, List.length_append]
  -- which of the three segments each kind of constraint selects
  cases k with
  | lt =>
    exact slice_eq_filter (X := []) (Y := A) (Z := B ++ C) hd (by simp [tsForm]) (List.forall_mem_nil _)
      (fun x hx => decide_eq_true (hA x hx)) (fun x hx => decide_eq_false (Nat.not_lt.mpr (hBC x hx)))
  | le =>
    exact slice_eq_filter (X := []) (Y := A ++ B) (Z := C) hd' (by simp [tsForm]) (List.forall_mem_nil _)
      (fun x hx => decide_eq_true (hAB x hx)) (fun x hx => decide_eq_false (Nat.not_le.mpr (hC x hx)))
  | gt =>
    exact slice_eq_filter (X := A ++ B) (Y := C) (Z := []) (by rw [hd', List.append_nil]) (by simp [tsForm, hlen])
      (fun x hx => decide_eq_false (Nat.not_lt.mpr (hAB x hx))) (fun x hx => decide_eq_true (hC x hx))
      (List.forall_mem_nil _)
  | ge =>
    exact slice_eq_filter (X := A) (Y := B ++ C) (Z := []) (by rw [hd, List.append_nil])
      (by simp [tsForm, hlen, Nat.add_assoc])
      (fun x hx => decide_eq_false (Nat.not_le.mpr (hA x hx))) (fun x hx => decide_eq_true (hBC x hx))
      (List.forall_mem_nil _)
  | eq =>
    exact slice_eq_filter (X := A) (Y := B) (Z := C) hd rfl
      (fun x hx => beq_eq_false_iff_ne.mpr (Nat.ne_of_lt (hA x hx))) (fun x hx => beq_iff_eq.mpr (hB x hx))
      (fun x hx => beq_eq_false_iff_ne.mpr (Nat.ne_of_gt (hC x hx)))

/-- **Timestamp-range subsets**: on a table whose rows carry non-decreasing timestamps, the dense
range that `fast_subset` returns for `ts < v`, `ts ≤ v`, `ts > v`, `ts ≥ v`, `ts = v` holds exactly
the rows that satisfy the constraint, in table order. -/
theorem C16_displaced_ts_range (d : List (Nat × Nat)) (hs : TsSorted d) (k : TsC) (val : Nat) (r : Nat × Nat)
    (h : tsRange d k val = some r) : slice d r = d.filter (fun row => k.sat val row.2) := by
  obtain ⟨a, b, hr, hf⟩ := ts_filter d hs k val
  rw [hr] at h
  split at h
  · cases h
  · exact Option.some.inj h ▸ hf

/-- an `=` constraint for which there is no fast subset selects nothing -/
theorem C16_displaced_ts_eq_none (d : List (Nat × Nat)) (hs : TsSorted d) (val : Nat)
    (h : tsRange d .eq val = none) : d.filter (fun row => row.2 == val) = [] := by
  obtain ⟨a, b, hr, hf⟩ := ts_filter d hs .eq val
  by_cases h0 : b = 0
  · refine hf.symm.trans ?_
    rw [h0, tsForm, slice, Nat.add_zero, Nat.sub_self, List.take_zero]
  · rw [hr, if_neg (fun c => h0 c.2)] at h
    cases h

/-- the timestamp order is kept by every insertion the table accepts -/
theorem C16_displaced_ts_sorted (d : List (Nat × Nat)) (hs : TsSorted d) (c ts : Nat) (hok : tsOk d ts = true) :
    TsSorted (d ++ [(c, ts)]) := by
  refine List.pairwise_append.mpr ⟨hs, List.pairwise_singleton _ _, fun a ha b hb => ?_⟩
  obtain rfl := List.mem_singleton.mp hb
  -- every row is at or before the last one, which `tsOk` compares with `ts`
  induction d using snoc_induction with
  | nil => cases ha
  | snoc l x =>
    rw [tsOk, List.getLast?_concat] at hok
    have hx : x.2 ≤ ts := of_decide_eq_true hok
    rcases List.mem_append.mp ha with h | h
    · exact Nat.le_trans ((List.pairwise_append.mp hs).2.2 a h x (List.mem_singleton_self x)) hx
    · rw [List.mem_singleton.mp h]
      exact hx

example : tsRange [(5, 1), (3, 1), (9, 2), (4, 4)] .ge 2 = some (2, 4) := by decide
example : tsRange [(5, 1), (3, 1), (9, 2), (4, 4)] .eq 3 = none := by decide
example : slice [(5, 1), (3, 1), (9, 2), (4, 4)] (0, 2) = [(5, 1), (3, 1)] := by decide

end EgglogVerif.Displaced
