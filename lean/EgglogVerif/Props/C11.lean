/-
C11 — Term and proof encodings preserve observable behaviour (the scheme's union-find).

The term encoding replaces the native union-find by a table `UF_S(child, parent)` maintained by two
rules run to saturation (`src/proofs/proof_encoding.md`):
* `parent`        : `UF(a,b), UF(b,c), b ≠ c  ⟹  delete UF(a,b); set UF(a,c)`
* `single_parent` : `UF(a,b), UF(a,c), b ≠ c, max(b,c) = b  ⟹  delete UF(a,b); set UF(b,c)`
Edges are a list of pairs.  The theorems: each rule application preserves the equivalence
generated by the edges (no equality invented, none lost), and at a fixpoint of both rules the
table is a FUNCTION that is IDEMPOTENT — every term points directly at its class leader — so
"same leader" is exactly the generated equivalence: what the native union-find's `find` provides.

A rule is modelled one firing at a time (`fireParent`, `fireSingle`); the engine fires all matches of
an iteration against one snapshot, of which nothing is said here.  That is where `max(b,c) = b`
matters — of the symmetric instances `(a,b,c)` and `(a,c,b)` it lets one through, where both together
would delete both entries of `a` — and why `C11_single_preserves`, about one firing, does without it.
-/
namespace EgglogVerif.TermEnc

abbrev Edges := List (Nat × Nat)

/-- equivalence generated by the edges -/
inductive Eqv (E : Edges) : Nat → Nat → Prop
  | edge {a b} : (a, b) ∈ E → Eqv E a b
  | refl (a) : Eqv E a a
  | symm {a b} : Eqv E a b → Eqv E b a
  | trans {a b c} : Eqv E a b → Eqv E b c → Eqv E a c

theorem Eqv.mono {E F : Edges} (h : ∀ a b, (a, b) ∈ E → Eqv F a b) {x y} (e : Eqv E x y) : Eqv F x y := by
  induction e with
  | edge he => exact h _ _ he
  | refl => exact .refl _
  | symm _ ih => exact .symm ih
  | trans _ _ ih1 ih2 => exact .trans ih1 ih2

/-- one firing of rule `parent` on the instance (a,b),(b,c) -/
def fireParent (E : Edges) (a b c : Nat) : Edges := (a, c) :: E.filter (· ≠ (a, b))
/-- one firing of rule `single_parent` on the instance (a,b),(a,c) -/
def fireSingle (E : Edges) (a b c : Nat) : Edges := (b, c) :: E.filter (· ≠ (a, b))

theorem mem_fire {E : Edges} {e new p : Nat × Nat} (hp : p ∈ E) (hne : p ≠ e) : p ∈ new :: E.filter (· ≠ e) :=
  List.mem_cons_of_mem _ (List.mem_filter.mpr ⟨hp, decide_eq_true hne⟩)

/-- both rules delete an edge `e` and set an edge `new` -/
theorem Eqv.replace_edge {E : Edges} {e new : Nat × Nat} (hnew : Eqv E new.1 new.2)
    (hold : Eqv (new :: E.filter (· ≠ e)) e.1 e.2) (x y : Nat) :
    Eqv (new :: E.filter (· ≠ e)) x y ↔ Eqv E x y := by
  constructor
  · apply Eqv.mono
    intro p q hp
    rcases List.mem_cons.mp hp with rfl | hp
    · exact hnew
    · exact .edge (List.mem_filter.mp hp).1
  · apply Eqv.mono
    intro p q hp
    by_cases hpq : (p, q) = e
    · subst hpq; exact hold
    · exact .edge (mem_fire hp hpq)

/-- **`parent` neither invents nor loses an equality.** -/
theorem C11_parent_preserves (E : Edges) (a b c : Nat) (h1 : (a, b) ∈ E) (h2 : (b, c) ∈ E) (hne : b ≠ c) (x y : Nat) :
    Eqv (fireParent E a b c) x y ↔ Eqv E x y := by
  -- afterwards `a = c` by the new edge and `c = b` by the surviving `(b, c)`
  have hbc : (b, c) ∈ fireParent E a b c := mem_fire h2 fun e => hne (Prod.mk.inj e).2.symm
  exact Eqv.replace_edge (e := (a, b)) (.trans (.edge h1) (.edge h2))
    (.trans (.edge List.mem_cons_self) (.symm (.edge hbc))) x y

/-- **`single_parent` neither invents nor loses an equality.** -/
theorem C11_single_preserves (E : Edges) (a b c : Nat) (h1 : (a, b) ∈ E) (h2 : (a, c) ∈ E) (hne : b ≠ c) (x y : Nat) :
    Eqv (fireSingle E a b c) x y ↔ Eqv E x y := by
  -- afterwards `a = c` by the surviving `(a, c)` and `c = b` by the new edge
  have hac : (a, c) ∈ fireSingle E a b c := mem_fire h2 fun e => hne (Prod.mk.inj e).2.symm
  exact Eqv.replace_edge (e := (a, b)) (.trans (.symm (.edge h1)) (.edge h2))
    (.trans (.edge hac) (.symm (.edge List.mem_cons_self))) x y

/-- no instance of either rule applies, and every mentioned term has an entry (the self-loop
invariant for representatives) -/
structure Saturated (E : Edges) : Prop where
  parent : ∀ a b c, (a, b) ∈ E → (b, c) ∈ E → b = c
  single : ∀ a b c, (a, b) ∈ E → (a, c) ∈ E → b = c
  total : ∀ a b, (a, b) ∈ E → ∃ c, (b, c) ∈ E

/-- at saturation the table is a function, idempotent: one hop reaches the leader -/
theorem C11_leader_fixed {E : Edges} (h : Saturated E) {a b : Nat} (hab : (a, b) ∈ E) : (b, b) ∈ E := by
  obtain ⟨c, hc⟩ := h.total a b hab
  have := h.parent a b c hab hc
  subst this; exact hc

theorem Saturated.entries_eq {E : Edges} (h : Saturated E) {p q : Nat} (e : Eqv E p q) (l : Nat) :
    (p, l) ∈ E ↔ (q, l) ∈ E := by
  induction e with
  | @edge a b hab =>
    -- `a`'s only entry is `(a, b)`, `b`'s only entry is `(b, b)`
    have hbb := C11_leader_fixed h hab
    exact ⟨fun hl => h.single a b l hab hl ▸ hbb, fun hl => h.single b b l hbb hl ▸ hab⟩
  | refl => exact Iff.rfl
  | symm _ ih => exact ih.symm
  | trans _ _ ih1 ih2 => exact ih1.trans ih2

/-- **At saturation, two terms are equal in the generated equivalence iff they point at the same
leader** — the one-hop `UF_Sf` index is a faithful `find`. -/
theorem C11_uf {E : Edges} (h : Saturated E) {x y lx ly : Nat} (hx : (x, lx) ∈ E) (hy : (y, ly) ∈ E) :
    Eqv E x y ↔ lx = ly :=
  ⟨fun e => h.single y lx ly ((h.entries_eq e lx).mp hx) hy, fun e => .trans (.edge hx) (.symm (.edge (e ▸ hy)))⟩

/-- non-vacuity: a saturated table -/
example : Saturated [(0, 0), (1, 0)] := by
  have h0 : ∀ p ∈ [(0, 0), (1, 0)], p.2 = 0 := by decide
  exact ⟨fun a b c h1 h2 => (h0 _ h1).trans (h0 _ h2).symm, fun a b c h1 h2 => (h0 _ h1).trans (h0 _ h2).symm,
    fun a b h => ⟨0, (show b = 0 from h0 _ h) ▸ List.mem_cons_self⟩⟩

end EgglogVerif.TermEnc
