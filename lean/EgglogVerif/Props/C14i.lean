import EgglogVerif.Model.Intern
import EgglogVerif.Lemmas.List
/-
C14 — the container hash-cons table after a rebuild pass.

Whatever the table looked like before, one pass makes it a hash-cons again, loses no container and
merges only containers that are equal after rewriting by `find` (`C14_rebuild_hashcons`, `_present`,
`_unions_sound`); a canonical table is a fixpoint of the pass (the loop's stopping criterion), reached
in one pass when `find` is idempotent (`_stable`, `_idem`).  `register_val` is a hash-cons: the same
value gets the same id, and values stay distinct (`C14_intern_*`).

The table is an association list read from the front: a lookup, and a re-insertion, either meets
no entry with the value or a first one, at a known place (`lookupVal_eq_none/some`,
`insertMerge_absent/present`).  The `C14_rebuild_*` statements are read off one invariant,
`PassSpec`, carried along the table entry by entry (`rebuildPass_spec`).
-/
namespace EgglogVerif.Intern

/-- the containers two ids stand for in the old table, after rewriting -/
def SameAfter (find : Nat → Nat) (t : Tab) (a b : Nat) : Prop :=
  ∃ va vb, (a, va) ∈ t ∧ (b, vb) ∈ t ∧ va.map find = vb.map find

/-- ids are pairwise different and below the counter -/
def IdsFresh (t : Tab) (next : Nat) : Prop := t.Pairwise (fun a b => a.1 ≠ b.1) ∧ ∀ e ∈ t, e.1 < next

theorem SameAfter.symm {find : Nat → Nat} {t : Tab} {a b : Nat} :
    SameAfter find t a b → SameAfter find t b a :=
  by rintro ⟨va, vb, ha, hb, h⟩; exact ⟨vb, va, hb, ha, h.symm⟩

theorem SameAfter.mono {find : Nat → Nat} {t t' : Tab} {a b : Nat} (hsub : ∀ x ∈ t, x ∈ t') :
    SameAfter find t a b → SameAfter find t' a b :=
  by rintro ⟨va, vb, ha, hb, h⟩; exact ⟨va, vb, hsub _ ha, hsub _ hb, h⟩

/-! ### `lookupVal`, `insertMerge` -/

theorem lookupVal_eq_none {t : Tab} {v : List Nat} : lookupVal t v = none ↔ ∀ e ∈ t, e.2 ≠ v := by
  simp only [lookupVal, Option.map_eq_none_iff, List.find?_eq_none, beq_iff_eq, ne_eq]

theorem lookupVal_eq_some {t : Tab} {v : List Nat} {i : Nat} :
    lookupVal t v = some i ↔ ∃ pre post, t = pre ++ (i, v) :: post ∧ ∀ e ∈ pre, e.2 ≠ v := by
  simp only [lookupVal, Option.map_eq_some_iff, List.find?_eq_some_iff_append, beq_iff_eq,
    Bool.not_eq_eq_eq_not, Bool.not_true, beq_eq_false_iff_ne]
  constructor
  · rintro ⟨e, ⟨rfl, pre, post, rfl, hpre⟩, rfl⟩
    exact ⟨pre, post, rfl, hpre⟩
  · rintro ⟨pre, post, rfl, hpre⟩
    exact ⟨(i, v), ⟨rfl, pre, post, rfl, hpre⟩, rfl⟩

theorem lookupVal_mem {t : Tab} {v : List Nat} {i : Nat} (h : lookupVal t v = some i) : (i, v) ∈ t := by
  obtain ⟨pre, post, rfl, _⟩ := lookupVal_eq_some.mp h
  exact List.mem_append_cons_self

theorem insertMerge_append {pre : Tab} {v : List Nat} (h : ∀ e ∈ pre, e.2 ≠ v) (rest : Tab) (id : Nat) :
    insertMerge (pre ++ rest) id v = (pre ++ (insertMerge rest id v).1, (insertMerge rest id v).2) := by
  induction pre with
  | nil => rfl
  | cons hd pre ih =>
    simp only [List.cons_append, insertMerge, if_neg (h hd List.mem_cons_self),
      ih fun e he => h e (List.mem_cons_of_mem _ he)]

theorem insertMerge_absent {t : Tab} {v : List Nat} (h : ∀ e ∈ t, e.2 ≠ v) (id : Nat) :
    insertMerge t id v = (t ++ [(id, v)], []) := by
  simpa [insertMerge] using insertMerge_append h [] id

theorem insertMerge_present {pre : Tab} {v : List Nat} (h : ∀ e ∈ pre, e.2 ≠ v) (id' : Nat) (post : Tab)
    (id : Nat) : insertMerge (pre ++ (id', v) :: post) id v =
      (pre ++ (min id' id, v) :: post, if id' = id then [] else [(max id' id, min id' id)]) := by
  rw [insertMerge_append h, insertMerge, if_pos rfl]

/-! ### one invariant of the sweep -/

theorem rebuildPass_snoc (find : Nat → Nat) (t : Tab) (e : Nat × List Nat) :
    rebuildPass find (t ++ [e]) = passStep find (rebuildPass find t) e := by
  simp only [rebuildPass, List.foldl_append, List.foldl_cons, List.foldl_nil]

/-- The sweep has consumed the entries `t` and holds the table `tab` and the unions `us`.  `origin`,
the converse of `present`, is what `unions` needs: an id in `tab` still carries the rewritten value
of an entry of `t` with that very id. -/
structure PassSpec (find : Nat → Nat) (t tab : Tab) (us : List (Nat × Nat)) : Prop where
  distinct : ValuesDistinct tab
  present : ∀ e ∈ t, ∃ j, j ≤ e.1 ∧ (j, e.2.map find) ∈ tab
  origin : ∀ e ∈ tab, ∃ c, (e.1, c) ∈ t ∧ c.map find = e.2
  unions : ∀ u ∈ us, SameAfter find t u.1 u.2
  measure : tab.length + us.length ≤ t.length

section
variable {find : Nat → Nat} {t : Tab} {us : List (Nat × Nat)} {id : Nat} {c : List Nat}

theorem PassSpec.absent {tab : Tab} (h : PassSpec find t tab us) (ha : ∀ e ∈ tab, e.2 ≠ c.map find) :
    PassSpec find (t ++ [(id, c)]) (tab ++ [(id, c.map find)]) us where
  distinct := List.pairwise_append.mpr ⟨h.distinct, List.pairwise_singleton _ _,
    fun a ha' b hb => by rw [List.mem_singleton.mp hb]; exact ha a ha'⟩
  present := List.forall_mem_append.mpr
    ⟨fun e he => (h.present e he).imp fun _ hj => ⟨hj.1, List.mem_append_left _ hj.2⟩,
      List.forall_mem_singleton.mpr ⟨id, Nat.le_refl _, List.mem_concat_self⟩⟩
  origin := List.forall_mem_append.mpr
    ⟨fun e he => (h.origin e he).imp fun _ hd => ⟨List.mem_append_left _ hd.1, hd.2⟩,
      List.forall_mem_singleton.mpr ⟨c, List.mem_concat_self, rfl⟩⟩
  unions := fun u hu => (h.unions u hu).mono fun _ => List.mem_append_left _
  measure := by
    rw [List.length_append, List.length_append, Nat.add_right_comm]
    exact Nat.succ_le_succ h.measure

theorem PassSpec.collide {pre post : Tab} {id' : Nat}
    (h : PassSpec find t (pre ++ (id', c.map find) :: post) us) :
    PassSpec find (t ++ [(id, c)]) (pre ++ (min id' id, c.map find) :: post)
      (us ++ if id' = id then [] else [(max id' id, min id' id)]) := by
  obtain ⟨c', hc', hw'⟩ := h.origin (id', c.map find) List.mem_append_cons_self
  have same : SameAfter find (t ++ [(id, c)]) id' id :=
    ⟨c', c, List.mem_append_left _ hc', List.mem_concat_self, hw'⟩
  constructor
  case distinct =>
    have := h.distinct
    simp only [ValuesDistinct, ← List.pairwise_map (f := Prod.snd) (R := (· ≠ ·)), List.map_append,
      List.map_cons] at this ⊢
    exact this
  case present =>
    refine List.forall_mem_append.mpr ⟨fun e he => ?_,
      List.forall_mem_singleton.mpr ⟨_, Nat.min_le_right _ _, List.mem_append_cons_self⟩⟩
    obtain ⟨j, hj, hm⟩ := h.present e he
    rcases mem_replace (min id' id, c.map find) hm with heq | hm
    · obtain ⟨rfl, hv⟩ := Prod.mk.inj heq
      exact ⟨_, Nat.le_trans (Nat.min_le_left _ _) hj, by rw [hv]; exact List.mem_append_cons_self⟩
    · exact ⟨j, hj, hm⟩
  case origin =>
    intro e he
    rcases mem_replace (id', c.map find) he with rfl | he
    · -- the smaller id is `id'`, which had an origin, or the new entry's own
      dsimp only
      rw [Nat.min_def]
      split
      · exact ⟨c', List.mem_append_left _ hc', hw'⟩
      · exact ⟨c, List.mem_concat_self, rfl⟩
    · exact (h.origin e he).imp fun _ hd => ⟨List.mem_append_left _ hd.1, hd.2⟩
  case unions =>
    refine List.forall_mem_append.mpr ⟨fun u hu => (h.unions u hu).mono fun _ => List.mem_append_left _, fun u hu => ?_⟩
    split at hu
    · cases hu
    · rw [List.mem_singleton.mp hu, Nat.max_def, Nat.min_def]
      split
      · exact same.symm
      · exact same
  case measure =>
    -- the table keeps its length; a union, if any, is paid for by the entry just consumed
    have := h.measure
    simp only [List.length_append, List.length_cons] at this ⊢
    split
    · exact Nat.le_succ_of_le this
    · exact Nat.succ_le_succ this

end

theorem rebuildPass_spec (find : Nat → Nat) (t : Tab) :
    PassSpec find t (rebuildPass find t).1 (rebuildPass find t).2 := by
  induction t using snoc_induction with
  | nil => exact ⟨List.Pairwise.nil, List.forall_mem_nil _, List.forall_mem_nil _, List.forall_mem_nil _, Nat.le_refl _⟩
  | snoc t e ih =>
    rw [rebuildPass_snoc, passStep]
    cases hl : lookupVal (rebuildPass find t).1 (e.2.map find) with
    | none =>
      have ha := lookupVal_eq_none.mp hl
      rw [insertMerge_absent ha, List.append_nil]
      exact ih.absent ha
    | some id' =>
      obtain ⟨pre, post, ht, ha⟩ := lookupVal_eq_some.mp hl
      rw [ht] at ih ⊢
      rw [insertMerge_present ha]
      exact ih.collide

/-- after a pass the table is a hash-cons again: no two ids for one container -/
theorem C14_rebuild_hashcons (find : Nat → Nat) (t : Tab) : ValuesDistinct (rebuildPass find t).1 :=
  (rebuildPass_spec find t).distinct

/-- nothing is lost: every old container is present, rewritten, under its own or a smaller id -/
theorem C14_rebuild_present (find : Nat → Nat) (t : Tab) :
    ∀ e ∈ t, ∃ i, i ≤ e.1 ∧ (i, e.2.map find) ∈ (rebuildPass find t).1 :=
  (rebuildPass_spec find t).present

/-- a pass never merges containers that differ modulo `find` -/
theorem C14_rebuild_unions_sound (find : Nat → Nat) (t : Tab) :
    ∀ u ∈ (rebuildPass find t).2, SameAfter find t u.1 u.2 :=
  (rebuildPass_spec find t).unions

/-- the id that survives for a rewritten container is at most the id of every old container that
rewrites to it — with the merge function keeping the smaller id, the group's minimum wins -/
theorem C14_rebuild_min (find : Nat → Nat) (t : Tab) (i : Nat) (w : List Nat)
    (hi : (i, w) ∈ (rebuildPass find t).1) : ∀ e ∈ t, e.2.map find = w → i ≤ e.1 := by
  intro e he hw
  obtain ⟨j, hj, hm⟩ := C14_rebuild_present find t e he
  rw [hw] at hm
  cases eq_of_pairwise_ne (C14_rebuild_hashcons find t) hi hm rfl
  exact hj

/-- every union a pass asks for costs one table entry: the table after the pass plus the unions
emitted fit in the table before.  A pass that emitted a union has strictly shrunk the table, so
the loop "rebuild while something merged" ends within `t.length` passes -/
theorem C14_rebuild_measure (find : Nat → Nat) (t : Tab) :
    (rebuildPass find t).1.length + (rebuildPass find t).2.length ≤ t.length :=
  (rebuildPass_spec find t).measure

/-! ### a canonical table is a fixpoint of the pass -/

/-- the rebuild loop's stopping criterion is sound: on a table whose containers are all canonical
and pairwise different, a pass changes nothing and asks for no union -/
theorem C14_rebuild_stable (find : Nat → Nat) (t : Tab) (hd : ValuesDistinct t)
    (hn : ∀ e ∈ t, e.2.map find = e.2) : rebuildPass find t = (t, []) := by
  induction t using snoc_induction with
  | nil => rfl
  | snoc t e ih =>
    have hd' := List.pairwise_append.mp hd
    rw [rebuildPass_snoc, ih hd'.1 fun x hx => hn x (List.mem_append_left _ hx), passStep,
      hn e List.mem_concat_self, insertMerge_absent fun x hx => hd'.2.2 x hx e List.mem_cons_self]
    rfl

/-- with an idempotent `find`, one pass reaches that fixpoint: a second pass with the same `find`
over its result is the identity (merges change `find` only at the next `merge_all`) -/
theorem C14_rebuild_idem (find : Nat → Nat) (hid : ∀ x, find (find x) = find x) (t : Tab) :
    rebuildPass find (rebuildPass find t).1 = ((rebuildPass find t).1, []) := by
  apply C14_rebuild_stable find _ (C14_rebuild_hashcons find t)
  intro e he
  obtain ⟨c, _, hc⟩ := (rebuildPass_spec find t).origin e he
  rw [← hc, List.map_map]
  exact List.map_congr_left fun a _ => hid a

theorem rebuildPassId_eq (find : Nat → Nat) (t : Tab) :
    rebuildPassId find t = rebuildPass find (t.map fun e => (find e.1, e.2)) := by
  rw [rebuildPass, List.foldl_map]; rfl

/-- the pass that also rewrites the entries' own ids (what the code runs) is the modelled pass
whenever no stored container's id is displaced — the precondition the correspondence run checks -/
theorem C14_rebuild_ids_canonical (find : Nat → Nat) (t : Tab) (h : ∀ e ∈ t, find e.1 = e.1) :
    rebuildPassId find t = rebuildPass find t := by
  rw [rebuildPassId_eq, List.map_congr_left (g := id) fun e he => by rw [h e he]; rfl, List.map_id]

/-! ### `register_val` -/

/-- `register_val` is a hash-cons: the value is found afterwards under the id handed out -/
theorem C14_intern_found (t : Tab) (next : Nat) (v : List Nat) :
    lookupVal (intern t next v).1 v = some (intern t next v).2.2 := by
  unfold intern
  split
  · rename_i id h; exact h
  · exact lookupVal_eq_some.mpr ⟨[], t, rfl, List.forall_mem_nil _⟩

/-- registering the same value again returns the same id and changes nothing -/
theorem C14_intern_idem (t : Tab) (next : Nat) (v : List Nat) :
    intern (intern t next v).1 (intern t next v).2.1 v = intern t next v := by
  rw [intern, C14_intern_found]

/-- `register_val` keeps values distinct -/
theorem C14_intern_keeps (t : Tab) (next : Nat) (v : List Nat) (h : ValuesDistinct t) :
    ValuesDistinct (intern t next v).1 := by
  unfold intern
  split
  · exact h
  · rename_i hn
    exact List.pairwise_cons.mpr ⟨fun a ha heq => lookupVal_eq_none.mp hn a ha heq.symm, h⟩

theorem C14_intern_ids (t : Tab) (next : Nat) (v : List Nat) (h : IdsFresh t next) :
    IdsFresh (intern t next v).1 (intern t next v).2.1 := by
  unfold intern
  split
  · exact h
  · exact ⟨List.pairwise_cons.mpr ⟨fun a ha => Nat.ne_of_gt (h.2 a ha), h.1⟩,
      List.forall_mem_cons.mpr ⟨Nat.lt_succ_self _, fun e he => Nat.lt_succ_of_lt (h.2 e he)⟩⟩

/-- two different containers never share an id -/
theorem C14_intern_injective (t : Tab) (next : Nat) (h : IdsFresh t next) (v w : List Nat) (i : Nat)
    (hv : lookupVal t v = some i) (hw : lookupVal t w = some i) : v = w :=
  (Prod.mk.inj (eq_of_pairwise_ne h.1 (lookupVal_mem hv) (lookupVal_mem hw) rfl)).2

/-- non-vacuity: a pass that merges two containers, and one that merges nothing -/
example : rebuildPass (fun x => if x = 2 then 1 else x) [(10, [1, 3]), (11, [2, 3]), (12, [3])]
    = ([(10, [1, 3]), (12, [3])], [(11, 10)]) := rfl
example : (rebuildPass id [(10, [1, 3]), (11, [2, 3])]).2 = [] := rfl

/-- non-vacuity of the `register_val` theorems: two registrations from the empty table -/
example : lookupVal (intern (intern [] 0 [1]).1 1 [2]).1 [2] = some 1 ∧
    lookupVal (intern (intern [] 0 [1]).1 1 [2]).1 [1] = some 0 := ⟨rfl, rfl⟩
example : IdsFresh (intern [] 0 [1]).1 (intern [] 0 [1]).2.1 :=
  C14_intern_ids [] 0 [1] ⟨List.Pairwise.nil, List.forall_mem_nil _⟩
/-- non-vacuity of `C14_rebuild_stable`: a canonical table and a `find` that moves other ids -/
example : rebuildPass (fun x => if x = 9 then 1 else x) [(10, [1, 3]), (11, [2, 3])] = ([(10, [1, 3]), (11, [2, 3])], []) := rfl

end EgglogVerif.Intern
