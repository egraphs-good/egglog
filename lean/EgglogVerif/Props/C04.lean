import EgglogVerif.Props.C01
/-
C04 — The database is canonical and consistent after every command (model level).

Every command of the model ends with the rebuild loop (`topAction`, `stepRules`; the real engine, with
defect 2 repaired, also when a rule head panics), and a rebuild pass re-inserts every row through
`insertInto`.  Hence one row per key (`C04_insert_unique`, `C04_uniqueKeys`), and, whenever the loop
reports its fixpoint — within `size + 2` passes, `C04_terminates` — a database in which every stored key
and every id-valued output is a representative (`C04_topAction`, `C04_stepRules`) and on which a further
rebuild does nothing (`C04_idempotent`).
-/
namespace EgglogVerif.EGraph

/-- **Inserting a row keeps "at most one row per key"**, whatever the merge behaviour. -/
theorem C04_insert_unique (g : EG) (d : Decl) (rows : List Row) (r : Row) (h : UniqueKeys rows) :
    UniqueKeys (insertInto g d rows r).2 := insertInto_unique g d rows r h

/-- **After a rebuild pass a table holds at most one row per key.** -/
theorem C04_uniqueKeys (g : EG) (f : Nat) :
    UniqueKeys ((g.table f).foldl
      (fun (acc : EG × List Row) r => insertInto acc.1 (g.decl f) acc.2 (acc.1.canonRow (g.decl f) r)) (g, [])).2 :=
  rbFold_unique (g.decl f) (g.table f) (g, []) .nil

/-- canonicalisation is idempotent on id columns: a canonicalised row is stable under the same
union-find (`find` returns a root: `UF.root_idem`) -/
theorem C04_canon_idem_arg (g : EG) (v : Int) (h : UF.AInv g.parents) : g.find (g.find v) = g.find v :=
  find_idem h v

/-! ### the whole database after a command -/

theorem runAction_wf (acc : EG × Subst) (a : Action) (h : acc.1.WF) : (runAction acc a).1.WF := by
  cases a with
  | delete f args => dsimp only [runAction]; split <;> exact h
  | _ => exact (keeps_runAction acc _ h (by trivial)).wf

theorem runActionsFrom_wf (acc : EG × Subst) (as : List Action) (h : acc.1.WF) : (runActionsFrom acc as).WF := by
  fun_induction runActionsFrom acc as with
  | case1 => exact h
  | case2 acc a _ _ => exact runAction_wf acc a h
  | case3 acc a _ _ ih => exact ih (runAction_wf acc a h)

theorem runActions_wf (g : EG) (s : Subst) (as : List Action) (h : g.WF) : (runActions g s as).WF :=
  runActionsFrom_wf (g, s) as h

/-- **After every top-level action list** — whatever it contains: constructor calls, unions, sets,
subsumes, deletes, failing primitives, panics — **the database the command leaves behind is
canonical**, provided the rebuild loop reports its fixpoint: every stored key and every stored
id-valued output is a representative, and no table holds two rows for one key. -/
theorem C04_topAction (fuel : Nat) (g : EG) (as : List Action) (h : g.WF)
    (hfix : (rebuild fuel (runActions g [] as)).2 = true) : Canonical (topAction fuel g as) :=
  (rebuild_canonical fuel _ (runActions_wf g [] as h) hfix).1

/-- **After every ruleset iteration** (any rules, any matches, any heads) likewise. -/
theorem C04_stepRules (fuel : Nat) (g : EG) (rules : List Rule) (h : g.WF)
    (hfix : (rebuild fuel ((rules.flatMap fun r => (matchAll g false r.body).map fun s => (s, r.head)).foldl
      (fun g (sh : Subst × List Action) => runActions g sh.1 sh.2) g)).2 = true) :
    Canonical (stepRules fuel g rules).1 := by
  refine (rebuild_canonical fuel _ ?_ hfix).1
  exact List.foldlRecOn _ _ (motive := EG.WF) h fun g h w _ => runActions_wf g w.1 w.2 h

/-- canonical means: canonicalising any stored row again changes nothing -/
theorem C04_canonical_stable {g : EG} (c : Canonical g) (f : Nat) (y : Row) (hy : y ∈ g.table f)
    (hid : (g.decl f).outIsId = true) : g.canonRow (g.decl f) y = y :=
  canonRow_of_canon (c.rows f y hy)

/-- **The database a command leaves behind is a fixpoint of the rebuild**: running the rebuild
loop again on a canonical database returns it unchanged at once — so "everything recorded as
equal is already visible to the very next query": nothing is left for a later rebuild to do. -/
theorem C04_idempotent {g : EG} (c : Canonical g) (h : g.WF) (fuel : Nat) :
    rebuild (fuel + 1) g = (g, true) :=
  rebuild_of_canonical c fuel

/-- **The rebuild loop terminates and leaves a canonical database**: for every state with a
well-formed union-find in which every stored output id is an id of the union-find (true of every
id the engine mints: `OutsInRange.lookupOrCreate`, `.union`, `.insertRow`), `size + 2` passes
suffice: each pass either merges two classes (the number of representatives drops) or changes no
representative, and then its result is canonical and the next pass is the identity. -/
theorem C04_terminates {g : EG} (h : g.WF) (hr : OutsInRange g g.parents.size) :
    (rebuild (g.parents.size + 2) g).2 = true ∧ Canonical (rebuild (g.parents.size + 2) g).1 := by
  have ht := rebuild_total h hr.consInRange
  exact ⟨ht, (rebuild_canonical _ g h ht).1⟩

end EgglogVerif.EGraph
