import EgglogVerif.Model.EGraph
/-
C02 — A rule run fires for exactly the set of matches of its body (model level).

`matchAll` (the executable matcher of the e-graph model: atom by atom, unifying against the rows)
is proved sound and complete for the DENOTATIONAL meaning of a conjunctive query: the total
assignments under which every atom names a row of its table (subsumed rows excluded unless asked
for).  That meaning does not mention any order, so the result is independent of the order of the
atoms — the model-level content of "the result does not depend on the join plan".
-/
namespace EgglogVerif.EGraph

abbrev Asg := Nat → Int

def evalA (σ : Asg) : Tm → Int
  | .var n => σ n
  | .lit i => i

/-- a partial substitution is extended by a total assignment -/
def Agrees (s : Subst) (σ : Asg) : Prop := ∀ n v, s.get n = some v → σ n = v

/-- the meaning of a table atom -/
def SatTbl (g : EG) (inclSub : Bool) (σ : Asg) (f : Nat) (args : List Tm) (out : Tm) : Prop :=
  ∃ r ∈ g.table f, (inclSub = true ∨ r.sub = false) ∧ args.map (evalA σ) = r.args ∧ evalA σ out = r.out

/-- queries made of table atoms -/
def tblAtoms : List Atom → Prop
  | [] => True
  | .tbl _ _ _ :: rest => tblAtoms rest
  | .prim _ _ _ :: _ => False

def SatAll (g : EG) (b : Bool) (σ : Asg) : List Atom → Prop
  | [] => True
  | .tbl f args out :: rest => SatTbl g b σ f args out ∧ SatAll g b σ rest
  | .prim _ _ _ :: _ => False

/-! ### substitutions and the assignments that extend them -/

theorem Subst.get_cons (n m : Nat) (v : Int) (s : Subst) :
    Subst.get ((n, v) :: s) m = if n = m then some v else s.get m := by
  by_cases h : n = m <;> simp [Subst.get, h]

theorem agrees_nil (σ : Asg) : Agrees [] σ := fun _ _ h => nomatch h

theorem agrees_cons {σ : Asg} {s : Subst} {n : Nat} (v : Int) (hn : s.get n = none) :
    Agrees ((n, v) :: s) σ ↔ Agrees s σ ∧ σ n = v := by
  constructor
  · intro h
    refine ⟨fun m w hm => h m w ?_, h n v ?_⟩
    · have hne : n ≠ m := fun e => by rw [e, hm] at hn; cases hn
      rw [Subst.get_cons, if_neg hne, hm]
    · rw [Subst.get_cons, if_pos rfl]
  · intro ⟨hs, hv⟩ m w hm
    rw [Subst.get_cons] at hm
    split at hm
    · next e => cases hm; exact e ▸ hv
    · exact hs m w hm

/-! ### what each stage of the matcher decides

Every stage (`unify`, `unifyAll`, `matchAtom`) maps a substitution `s` to some extensions of it, and
each is characterised the same way: the total assignments extending one of its results are those
that extend `s` and satisfy the constraint the stage stands for.  Stages are chained by
`Option.bind` and `List.flatMap`; both have a membership lemma of the shape
`∃ a, S a ∧ K a b`, so one sequencing lemma (`seq_agrees`) serves all of them. -/

theorem exists_seq {α β : Type} {S : α → Prop} {K : α → β → Prop} {A : β → Prop} :
    (∃ b, (∃ a, S a ∧ K a b) ∧ A b) ↔ ∃ a, S a ∧ ∃ b, K a b ∧ A b :=
  ⟨fun ⟨b, ⟨a, hs, hk⟩, hb⟩ => ⟨a, hs, b, hk, hb⟩, fun ⟨a, hs, b, hk, hb⟩ => ⟨b, ⟨a, hs, hk⟩, hb⟩⟩

/-- Sequencing: if the stage `K` decides the constraint `C`, running it on every member of a set `S`
of substitutions conjoins `C` to what `S` stands for. -/
theorem seq_agrees {σ : Asg} {C : Prop} {S : Subst → Prop} {K : Subst → Subst → Prop}
    (hK : ∀ s, (∃ s', K s s' ∧ Agrees s' σ) ↔ Agrees s σ ∧ C) :
    (∃ s', (∃ s, S s ∧ K s s') ∧ Agrees s' σ) ↔ (∃ s, S s ∧ Agrees s σ) ∧ C := by
  rw [exists_seq]
  simp only [hK, ← and_assoc, exists_and_right]

theorem exists_guard {α : Type} {c : Prop} [Decidable c] {a : α} {A : α → Prop} :
    (∃ b, (if c then some a else none) = some b ∧ A b) ↔ c ∧ A a := by
  by_cases h : c <;> simp [h]

theorem unify_iff (σ : Asg) (t : Tm) (v : Int) (s : Subst) :
    (∃ s', unify s t v = some s' ∧ Agrees s' σ) ↔ Agrees s σ ∧ evalA σ t = v := by
  cases t with
  | lit i =>
    dsimp only [unify, evalA]
    rw [exists_guard, and_comm]
  | var n =>
    dsimp only [unify, evalA]
    cases hn : s.get n with
    | none => simp [agrees_cons v hn]
    | some w =>
      -- an assignment that extends `s` gives the bound variable `n` its value `w`
      simp only [exists_guard]
      exact ⟨fun ⟨e, h⟩ => ⟨h, e ▸ h n w hn⟩, fun ⟨h, e⟩ => ⟨(h n w hn).symm.trans e, h⟩⟩

theorem unifyAll_iff (σ : Asg) : ∀ (ts : List Tm) (vs : List Int) (s : Subst),
    (∃ s', unifyAll s ts vs = some s' ∧ Agrees s' σ) ↔ Agrees s σ ∧ ts.map (evalA σ) = vs
  | [], [], s => by simp [unifyAll]
  | [], _ :: _, s => by simp [unifyAll]
  | _ :: _, [], s => by simp [unifyAll]
  | t :: ts, v :: vs, s => by
    simp only [unifyAll, Option.bind_eq_some_iff]
    rw [seq_agrees (unifyAll_iff σ ts vs), unify_iff, and_assoc, List.map_cons, List.cons.injEq]

theorem unifyRow_iff (σ : Asg) (args : List Tm) (out : Tm) (vs : List Int) (v : Int) (s : Subst) :
    (∃ s', (unifyAll s args vs).bind (fun s₁ => unify s₁ out v) = some s' ∧ Agrees s' σ) ↔
      Agrees s σ ∧ args.map (evalA σ) = vs ∧ evalA σ out = v := by
  simp only [Option.bind_eq_some_iff]
  rw [seq_agrees (unify_iff σ out v), unifyAll_iff, and_assoc]

/-- a table atom is matched by the stored rows that unify with it; a subsumed row counts only for `check` -/
theorem mem_matchAtom_tbl {g : EG} {b : Bool} {s : Subst} {f : Nat} {args : List Tm} {out : Tm} {s' : Subst} :
    s' ∈ matchAtom g b s (.tbl f args out) ↔ ∃ r ∈ g.table f, (r.sub = true → b = true) ∧
      (unifyAll s args r.args).bind (fun s1 => unify s1 out r.out) = some s' := by
  simp only [matchAtom, List.mem_filterMap, Option.ite_none_left_eq_some, Bool.and_eq_true, Bool.not_eq_eq_eq_not,
    Bool.not_true, not_and, Bool.not_eq_false]

theorem visible_iff (sub b : Bool) : (sub = true → b = true) ↔ b = true ∨ sub = false := by
  cases sub <;> cases b <;> decide

theorem matchAtom_tbl_iff (g : EG) (b : Bool) (σ : Asg) (f : Nat) (args : List Tm) (out : Tm) (s : Subst) :
    (∃ s' ∈ matchAtom g b s (.tbl f args out), Agrees s' σ) ↔ Agrees s σ ∧ SatTbl g b σ f args out := by
  simp only [mem_matchAtom_tbl, SatTbl]
  rw [exists_seq]
  simp only [and_assoc, unifyRow_iff, visible_iff, and_left_comm (b := Agrees s σ), exists_and_left]

theorem matchAll_foldl_iff (g : EG) (b : Bool) (σ : Asg) : ∀ atoms : List Atom, tblAtoms atoms → ∀ ss : List Subst,
    (∃ s ∈ atoms.foldl (fun ss a => ss.flatMap fun s => matchAtom g b s a) ss, Agrees s σ) ↔
      (∃ s ∈ ss, Agrees s σ) ∧ SatAll g b σ atoms
  | [], _, ss => (and_iff_left trivial).symm
  | .tbl f args out :: rest, ht, ss => by
    rw [List.foldl_cons, matchAll_foldl_iff g b σ rest ht]
    simp only [List.mem_flatMap]
    rw [seq_agrees (matchAtom_tbl_iff g b σ f args out), and_assoc]
    rfl
  | .prim _ _ _ :: _, ht, _ => ht.elim

/-- **The matcher computes exactly the matches of the body**: a total assignment satisfies every
atom iff it extends one of the substitutions `matchAll` returns (so actions run for every
satisfying substitution and for no other; subsumed rows are excluded unless `inclSub`). -/
theorem C02_matches (g : EG) (b : Bool) (atoms : List Atom) (ht : tblAtoms atoms) (σ : Asg) :
    (∃ s ∈ matchAll g b atoms, Agrees s σ) ↔ SatAll g b σ atoms :=
  (matchAll_foldl_iff g b σ atoms ht [[]]).trans (by simp [agrees_nil])

/-- A list predicate that splits over `cons` is a conjunction over the members, so it sees only
which members there are. -/
theorem forall_mem_of_cons {α : Type} {P : List α → Prop} {Q : α → Prop} (nil : P [])
    (cons : ∀ a l, P (a :: l) ↔ Q a ∧ P l) : ∀ l, P l ↔ ∀ a ∈ l, Q a
  | [] => by simp [nil]
  | a :: l => by rw [cons, forall_mem_of_cons nil cons l, List.forall_mem_cons]

theorem tblAtoms_iff : ∀ l : List Atom, tblAtoms l ↔ ∀ a ∈ l, tblAtoms [a] :=
  forall_mem_of_cons trivial fun a _ => by cases a <;> simp [tblAtoms]

theorem satAll_iff (g : EG) (b : Bool) (σ : Asg) : ∀ l : List Atom, SatAll g b σ l ↔ ∀ a ∈ l, SatAll g b σ [a] :=
  forall_mem_of_cons trivial fun a _ => by cases a <;> simp [SatAll]

/-- the matches depend on the SET of atoms only -/
theorem matchAll_congr (g : EG) (b : Bool) {l₁ l₂ : List Atom} (hp : ∀ a, a ∈ l₁ ↔ a ∈ l₂) (ht : tblAtoms l₁)
    (σ : Asg) : (∃ s ∈ matchAll g b l₁, Agrees s σ) ↔ (∃ s ∈ matchAll g b l₂, Agrees s σ) := by
  have ht' : tblAtoms l₂ := by rw [tblAtoms_iff] at ht ⊢; exact fun a ha => ht a ((hp a).2 ha)
  rw [C02_matches g b l₁ ht, C02_matches g b l₂ ht', satAll_iff, satAll_iff]
  exact forall_congr' fun a => by rw [hp a]

/-- **Join-order independence**: any permutation of the body's atoms yields the same set of
matches. -/
theorem C02_perm (g : EG) (b : Bool) (l₁ l₂ : List Atom) (hp : l₁.Perm l₂) (ht : tblAtoms l₁) (σ : Asg) :
    (∃ s ∈ matchAll g b l₁, Agrees s σ) ↔ (∃ s ∈ matchAll g b l₂, Agrees s σ) :=
  matchAll_congr g b (fun _ => hp.mem_iff) ht σ

/-- subsumed rows never contribute to a rule match -/
theorem C02_subsumed (g : EG) (σ : Asg) (f : Nat) (args : List Tm) (out : Tm) (h : SatTbl g false σ f args out) :
    ∃ r ∈ g.table f, r.sub = false ∧ args.map (evalA σ) = r.args := by
  obtain ⟨r, hr, hv, ha, _⟩ := h
  exact ⟨r, hr, hv.resolve_left Bool.false_ne_true, ha⟩

end EgglogVerif.EGraph
