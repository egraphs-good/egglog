import EgglogVerif.Lemmas.EGraphInv
import EgglogVerif.Lemmas.EGraphTerm
/-
C01 — Equality is exactly the congruence closure of what was asserted.

`CC ds U R` (Lemmas/EGraphInv.lean) is the least equivalence on ids that contains the requested
unions `U` and is closed under congruence over the rows `R` ever inserted into constructor tables
(id columns related, base-value columns equal ⇒ outputs related).

The theorems are about the EXECUTABLE model (`Model/EGraph.lean`) that the correspondence harness runs
side by side with the real engine.  Every primitive, and every action other than `delete`, preserves the
history invariant `Inv` for the unions / rows it records (`C01_reach`, `C01_actions`); under `Inv` ids with
the same representative are `CC`-related (`C01_sound`, also between rebuilds), in a canonical state also
conversely (`C01_complete`); hence exactness whenever the rebuild loop reports its fixpoint (`C01_exact`).
-/
namespace EgglogVerif.EGraph

/-! ### the state-changing primitives, with their ghost history -/

inductive GOp where
  | union (a b : Int)
  | insert (f : Nat) (r : Row)
  | create (f : Nat) (args : List Int)
  | rebuildPass
deriving Repr

def GOp.apply (g : EG) : GOp → EG
  | .union a b => g.union a b
  | .insert f r => g.insertRow f r
  | .create f args => (g.lookupOrCreate f args).1
  | .rebuildPass => EGraph.rebuildPass g

/-- unions requested / rows inserted by one primitive -/
def GOp.hist (g : EG) : GOp → List (Nat × Nat) × List IRow
  | .union a b => ([(a.toNat, b.toNat)], [])
  | .insert f r => ([], insRow g f r)
  | .create f args => ([], createRow g f args)
  | .rebuildPass => ([], [])

structure Traced where
  g : EG
  U : List (Nat × Nat)
  R : List IRow

def Traced.step (t : Traced) (op : GOp) : Traced :=
  ⟨op.apply t.g, (op.hist t.g).1 ++ t.U, (op.hist t.g).2 ++ t.R⟩

def Traced.run (t : Traced) (ops : List GOp) : Traced := ops.foldl Traced.step t

/-- the empty database over the declarations `decls` -/
def EG.init (decls : Array Decl) : EG := { decls := decls, tables := Array.replicate decls.size [] }

def declOf (decls : Array Decl) (f : Nat) : Decl := decls.getD f ⟨[], false, .unit⟩

theorem Inv.init (decls : Array Decl) : Inv (declOf decls) (EG.init decls) [] [] := by
  have hrt : ∀ z, (EG.init decls).rt z = z := UF.root_of_id UF.par_empty
  refine ⟨UF.AInv.of_id UF.par_empty, fun _ => rfl, nofun, nofun, fun x y hxy => ?_, fun f y hy => ?_⟩
  · rw [hrt, hrt] at hxy
    exact hxy ▸ CC.refl _
  · have : (EG.init decls).table f = [] := by
      simp only [EG.table, EG.init, Array.getD_eq_getD_getElem?, Array.getElem?_replicate]
      split <;> rfl
    rw [this] at hy
    cases hy

theorem Inv.gop {ds : Nat → Decl} {g : EG} {U R} (i : Inv ds g U R) : ∀ op : GOp,
    Inv ds (op.apply g) ((op.hist g).1 ++ U) ((op.hist g).2 ++ R)
  | .union a b => i.union a b
  | .insert f r => i.insertRow' f r
  | .create f args => i.lookupOrCreate f args
  | .rebuildPass => i.rebuildPass

/-- **Every reachable state satisfies the history invariant** (any operation sequence, any
declarations, rebuild passes at arbitrary moments). -/
theorem C01_reach (decls : Array Decl) (ops : List GOp) :
    let t := (Traced.mk (EG.init decls) [] []).run ops
    Inv (declOf decls) t.g t.U t.R := by
  exact List.foldlRecOn ops Traced.step (motive := fun t => Inv (declOf decls) t.g t.U t.R)
    (b := ⟨EG.init decls, [], []⟩) (Inv.init decls) fun _ i op _ => i.gop op

/-- **No equality is invented**: in every state satisfying the invariant (in particular every
reachable one, also between rebuilds) equal representatives are justified by the history. -/
theorem C01_sound {ds : Nat → Decl} {g : EG} {U R} (i : Inv ds g U R) (a b : Int)
    (h : g.find a = g.find b) : CC ds U R a.toNat b.toNat :=
  i.sound _ _ ((find_eq_iff i.wf a b).mp h)

/-- **Nothing that follows is missed**: in a canonical state satisfying the invariant, every
equality derivable from the history by reflexivity, symmetry, transitivity and congruence holds. -/
theorem C01_complete {ds : Nat → Decl} {g : EG} {U R} (i : Inv ds g U R) (c : Canonical g) :
    ∀ x y, CC ds U R x y → g.rt x = g.rt y := by
  intro x y hxy
  induction hxy with
  | base hu => exact i.unions _ _ hu
  | refl => rfl
  | symm _ ih => exact ih.symm
  | trans _ _ ih1 ih2 => exact ih1.trans ih2
  | @congr r1 r2 h1 h2 hf hm hl _ hb ih =>
    obtain ⟨y1, hy1, a1, o1⟩ := i.pres r1 h1
    obtain ⟨y2, hy2, a2, o2⟩ := i.pres r2 h2
    rw [← hf] at hy2 a2 o2
    rw [i.decl] at a1 a2 o1 o2
    -- the two inserted keys canonicalise to the same key
    have hkeys : canonArgs g (ds r1.f).argIsId r1.args = canonArgs g (ds r1.f).argIsId r2.args :=
      (canonArgs_eq_iff i.wf _ _ _).mpr ⟨hl, fun k k1 k2 => ⟨ih k k1 k2, hb k k1 k2⟩⟩
    -- stored keys are canonical, so the two images are the same row
    obtain rfl : y1 = y2 := c.row_unique hy1 hy2 (by rw [i.decl, a1, a2, hkeys])
    rw [← o1 hm, ← o2 hm]

/-- soundness and completeness together; every exactness statement, here and in C06, is this one at some canonical state -/
theorem Inv.exact {ds : Nat → Decl} {g : EG} {U R} (i : Inv ds g U R) (c : Canonical g) (a b : Int) :
    g.find a = g.find b ↔ CC ds U R a.toNat b.toNat :=
  ⟨C01_sound i a b, fun h => (find_eq_iff i.wf a b).mpr (C01_complete i c _ _ h)⟩

/-- **Exactness at the rebuild fixpoint.**  Whenever the rebuild loop of the model reports that it
reached its fixpoint, the equalities of the resulting database are exactly the congruence closure
of the unions requested and rows inserted so far. -/
theorem C01_exact {ds : Nat → Decl} {g : EG} {U R} (i : Inv ds g U R) (fuel : Nat)
    (hfix : (rebuild fuel g).2 = true) (a b : Int) :
    (rebuild fuel g).1.find a = (rebuild fuel g).1.find b ↔ CC ds U R a.toNat b.toNat :=
  (Inv.rebuild fuel i).exact (rebuild_canonical fuel g i.wf hfix).1 a b

/-- **Unconditional exactness**: when every stored output id is an id of the union-find, the
rebuild loop run with `size + 2` passes of fuel always reaches its fixpoint (`rebuild_total`), so
the equalities it leaves are exactly the congruence closure of the history. -/
theorem C01_exact_total {ds : Nat → Decl} {g : EG} {U R} (i : Inv ds g U R) (hr : OutsInRange g g.parents.size)
    (a b : Int) :
    (rebuild (g.parents.size + 2) g).1.find a = (rebuild (g.parents.size + 2) g).1.find b ↔ CC ds U R a.toNat b.toNat :=
  C01_exact i _ (rebuild_total i.wf hr.consInRange) a b

/-! ### any rebuild strategy -/

/-- a rebuild strategy: any sequence of full or partial (index-driven, incremental) passes over
any tables in any order -/
inductive RStep where
  | full (f : Nat)
  | some (f : Nat) (sel : Row → Bool)

def RStep.apply (g : EG) : RStep → EG
  | .full f => rebuildTable g f
  | .some f sel => rebuildSome g f sel

/-- **Whatever the rebuild strategy** — which tables it visits, in which order, and which rows of
each it chooses to re-canonicalise (all of them, or only those an index reports as mentioning a
displaced id) — **the equalities it ends with are exactly the congruence closure of the history,
provided it ends in a canonical database.**  An incremental strategy can fail to canonicalise a
row (a stale index: the seeded C01 change), which the canonicity check decides on the result; it
cannot invent an equality or lose one. -/
theorem C01_any_strategy {ds : Nat → Decl} {g : EG} {U R} (i : Inv ds g U R) (steps : List RStep)
    (c : Canonical (steps.foldl RStep.apply g)) (a b : Int) :
    (steps.foldl RStep.apply g).find a = (steps.foldl RStep.apply g).find b ↔ CC ds U R a.toNat b.toNat := by
  have i' : Inv ds (steps.foldl RStep.apply g) U R :=
    List.foldlRecOn steps RStep.apply (motive := fun g => Inv ds g U R) i fun _ i st _ => by
      cases st with
      | full f => exact i.rebuildTable f
      | some f sel => exact i.rebuildSome f sel
  exact i'.exact c a b

/-! ### rule heads and top-level actions -/

def NoDelete : Action → Prop
  | .delete _ _ => False
  | _ => True

/-- unions requested / rows inserted by one action (mirrors `runAction`) -/
def actionHist (acc : EG × Subst) : Action → List (Nat × Nat) × List IRow
  | .call _ f args =>
    match args.mapM (evalTm acc.2) with
    | none => ([], [])
    | some vs => ([], createRow acc.1 f vs)
  | .union a b =>
    match evalTm acc.2 a, evalTm acc.2 b with
    | some x, some y => ([(x.toNat, y.toNat)], [])
    | _, _ => ([], [])
  | .set f args v =>
    match args.mapM (evalTm acc.2), evalTm acc.2 v with
    | some vs, some x => ([], insRow acc.1 f ⟨vs, x, false⟩)
    | _, _ => ([], [])
  | .subsume f args =>
    match args.mapM (evalTm acc.2) with
    | none => ([], [])
    | some vs =>
      match lookupRow (acc.1.table f) vs with
      | some r => ([], insRow acc.1 f { r with sub := true })
      | none =>
        ([], insRow (acc.1.lookupOrCreate f vs).1 f ⟨vs, (acc.1.lookupOrCreate f vs).2, true⟩ ++ createRow acc.1 f vs)
  | _ => ([], [])

theorem Inv.err {ds : Nat → Decl} {g : EG} {U R} (i : Inv ds g U R) : Inv ds { g with err := true } U R :=
  i.of_merged (.err i.wf) fun _ => rfl

/-- an action other than `delete`, with the history it records: a failure, nothing, or one or two primitives -/
theorem runAction_cases {acc : EG × Subst} {M : EG → List (Nat × Nat) × List IRow → Prop}
    (err : M { acc.1 with err := true } ([], [])) (same : M acc.1 ([], []))
    (union : ∀ x y, M (acc.1.union x y) ([(x.toNat, y.toNat)], []))
    (create : ∀ f vs, M (acc.1.lookupOrCreate f vs).1 ([], createRow acc.1 f vs))
    (insert : ∀ f r, M (acc.1.insertRow f r) ([], insRow acc.1 f r))
    (both : ∀ f vs r, M ((acc.1.lookupOrCreate f vs).1.insertRow f r)
      ([], insRow (acc.1.lookupOrCreate f vs).1 f r ++ createRow acc.1 f vs)) :
    ∀ a, NoDelete a → M (runAction acc a).1 (actionHist acc a)
  | .call dst f args, _ => by
    dsimp only [runAction, actionHist]
    cases args.mapM (evalTm acc.2) with
    | none => exact err
    | some vs => exact create f vs
  | .prim dst op args, _ => by
    dsimp only [runAction, actionHist]
    cases args.mapM (evalTm acc.2) with
    | none => exact err
    | some vs =>
      dsimp only
      cases primEval op vs with
      | none => exact err
      | some v => exact same
  | .union x y, _ => by
    dsimp only [runAction, actionHist]
    cases evalTm acc.2 x with
    | none => exact err
    | some vx =>
      cases evalTm acc.2 y with
      | none => exact err
      | some vy => exact union vx vy
  | .set f args v, _ => by
    dsimp only [runAction, actionHist]
    cases args.mapM (evalTm acc.2) with
    | none => exact err
    | some vs =>
      cases evalTm acc.2 v with
      | none => exact err
      | some x => exact insert f _
  | .subsume f args, _ => by
    dsimp only [runAction, actionHist]
    cases args.mapM (evalTm acc.2) with
    | none => exact err
    | some vs =>
      dsimp only
      cases lookupRow (acc.1.table f) vs with
      | some r => exact insert f _
      | none =>
        dsimp only
        exact both f vs _
  | .panic, _ => err

theorem keeps_runAction (acc : EG × Subst) (a : Action) (h : acc.1.WF) (hnd : NoDelete a) :
    Keeps acc.1 (runAction acc a).1 :=
  runAction_cases (M := fun g' _ => Keeps acc.1 g') (Merged.err h).keeps (.refl h) (keeps_union h)
    (keeps_lookupOrCreate h) (keeps_insertRow h)
    (fun f vs r => (keeps_lookupOrCreate h f vs).trans (keeps_insertRow (keeps_lookupOrCreate h f vs).wf f r)) a hnd

/-- **Every action other than `delete` preserves the invariant**, with the history it adds. -/
theorem C01_actions {ds : Nat → Decl} {acc : EG × Subst} {U R} (i : Inv ds acc.1 U R) (a : Action)
    (hnd : NoDelete a) :
    Inv ds (runAction acc a).1 ((actionHist acc a).1 ++ U) ((actionHist acc a).2 ++ R) :=
  runAction_cases (M := fun g' (u, r) => Inv ds g' (u ++ U) (r ++ R)) i.err i i.union i.lookupOrCreate i.insertRow'
    (fun f vs r => by dsimp only; rw [List.append_assoc]; exact (i.lookupOrCreate f vs).insertRow' f r) a hnd

/-- **Every action list without `delete`** (a rule head for one match, or a top-level command;
a failing action halts the rest of the list) **preserves the invariant**; the history only grows. -/
theorem C01_action_list {ds : Nat → Decl} : ∀ (as : List Action) (acc : EG × Subst) {U R},
    (∀ a ∈ as, NoDelete a) → Inv ds acc.1 U R →
    ∃ U' R', Inv ds (runActionsFrom acc as) U' R' ∧ (∀ p, p ∈ U → p ∈ U') ∧ (∀ r, r ∈ R → r ∈ R') := by
  intro as acc
  fun_induction runActionsFrom acc as with
  | case1 acc => exact fun _ i => ⟨_, _, i, fun _ => id, fun _ => id⟩
  | case2 acc a rest _ =>
    exact fun hnd i => ⟨_, _, C01_actions i a (hnd a List.mem_cons_self),
      fun _ => List.mem_append_right _, fun _ => List.mem_append_right _⟩
  | case3 acc a rest _ ih =>
    intro U R hnd i
    obtain ⟨U', R', i', hU, hR⟩ := ih (fun b hb => hnd b (List.mem_cons_of_mem _ hb))
      (C01_actions i a (hnd a List.mem_cons_self))
    exact ⟨U', R', i', fun p hp => hU p (List.mem_append_right _ hp), fun r hr => hR r (List.mem_append_right _ hr)⟩

/-- **One iteration of any ruleset whose heads contain no `delete`**: whatever matches were found
and in whatever order their heads ran, the state after the iteration satisfies the invariant for
a history extending the old one — so (`C01_exact`) its equalities are exactly the congruence
closure of everything asserted so far, rule-derived unions and rows included. -/
theorem C01_stepRules {ds : Nat → Decl} (fuel : Nat) (g : EG) (rules : List Rule) {U R}
    (hnd : ∀ r ∈ rules, ∀ a ∈ r.head, NoDelete a) (i : Inv ds g U R) :
    ∃ U' R', Inv ds (stepRules fuel g rules).1 U' R' ∧ (∀ p, p ∈ U → p ∈ U') ∧ (∀ r, r ∈ R → r ∈ R') := by
  obtain ⟨U', R', i', hu, hr⟩ := List.foldlRecOn
    (rules.flatMap fun r => (matchAll g false r.body).map fun s => (s, r.head))
    (fun g (sh : Subst × List Action) => runActions g sh.1 sh.2)
    (motive := fun g' => ∃ U' R', Inv ds g' U' R' ∧ (∀ p, p ∈ U → p ∈ U') ∧ (∀ r, r ∈ R → r ∈ R'))
    ⟨U, R, i, fun _ => id, fun _ => id⟩ fun g' ⟨U1, R1, i1, hu1, hr1⟩ w hw => by
      obtain ⟨r, hr, s, _, rfl⟩ : ∃ r ∈ rules, ∃ s ∈ matchAll g false r.body, (s, r.head) = w := by
        simpa only [List.mem_flatMap, List.mem_map] using hw
      obtain ⟨U2, R2, i2, hu2, hr2⟩ := C01_action_list r.head (g', s) (hnd r hr) i1
      exact ⟨U2, R2, i2, fun p h => hu2 p (hu1 p h), fun r h => hr2 r (hr1 r h)⟩
  exact ⟨U', R', Inv.rebuild fuel i', hu, hr⟩

/-! ### non-vacuity: a concrete run -/

/-- `A`, `B` nullary, `F` unary; insert `A`, `B`, `F(A)`, `F(B)`, union `A` `B`, rebuild. -/
def exDecls : Array Decl := #[⟨[], true, .unionId⟩, ⟨[], true, .unionId⟩, ⟨[true], true, .unionId⟩]
def exOps : List GOp := [.create 0 [], .create 1 [], .create 2 [0], .create 2 [1], .union 0 1]

def exT : Traced := (Traced.mk (EG.init exDecls) [] []).run exOps

/-- the database after the first rebuild pass over `exT.g`: `A = B` has merged `F(A)` and `F(B)` -/
def exG1 : EG := ⟨#[0, 0, 2, 2], exDecls, #[[⟨[], 0, false⟩], [⟨[], 0, false⟩], [⟨[0], 2, false⟩]], false⟩

/-- The run, by kernel evaluation of the model, pass by pass: evaluating `rebuild 10 exT.g` in one go
makes the kernel recompute the first pass wherever the second one mentions its state. -/
theorem exT_run : rebuild 10 exT.g = (exG1, true) := by
  have e1 : rebuildPass exT.g = exG1 := rfl
  have e2 : exG1.sameAs exT.g = false := by decide +kernel
  have e3 : rebuildPass exG1 = exG1 := rfl
  rw [rebuild, e1, e2, rebuild, e3, sameAs_refl]
  rfl

/-- the hypotheses of `C01_exact` are met by this run (the invariant by `C01_reach`, the flag by
kernel evaluation), and it is not trivial: `F(A) = F(B)` holds, `A = F(A)` does not -/
example : (rebuild 10 exT.g).2 = true ∧ (rebuild 10 exT.g).1.find 2 = (rebuild 10 exT.g).1.find 3 ∧
    (rebuild 10 exT.g).1.find 0 ≠ (rebuild 10 exT.g).1.find 2 := by
  rw [exT_run]
  decide +kernel

example : CC (declOf exDecls) exT.U exT.R 2 3 := by
  have i : Inv (declOf exDecls) exT.g exT.U exT.R := C01_reach exDecls exOps
  have h := C01_exact i 10 (by rw [exT_run]) 2 3
  rw [exT_run] at h
  exact h.mp (by decide +kernel)

/-- **Soundness of the two linking sites**: a key
collision in `insertInto` only ever unions the outputs of two rows with EQUAL keys; -/
theorem C01_sound_collision (g : EG) (d : Decl) (cur new : Row) (hne : cur.out ≠ new.out)
    (hm : d.merge = .unionId) :
    (mergeRows g d cur new).1.parents = (UF.union g.parents cur.out.toNat new.out.toNat).1 := by
  rw [mergeRows_fst, if_pos ⟨hm, hne⟩]
  rfl

/-- with any other merge behaviour the union-find is untouched -/
theorem C01_sound_lattice (g : EG) (d : Decl) (cur new : Row) (hm : d.merge ≠ .unionId) :
    (mergeRows g d cur new).1.parents = g.parents := by
  rw [mergeRows_fst, if_neg (fun h => hm h.1)]
  split <;> rfl

end EgglogVerif.EGraph
