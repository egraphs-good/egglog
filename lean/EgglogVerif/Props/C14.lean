import EgglogVerif.Lemmas.List
/-
C14 — Containers of e-classes stay canonical (model level).

A container value is hash-consed on its NORMAL FORM: its elements mapped through `find`, then
(`Vec`) kept in order, (`MultiSet`) sorted, (`Set`) sorted and deduplicated
(`src/sort/*.rs` rebuild functions, `core-relations/src/containers`).  Two container ids are the
same value after a rebuild iff their normal forms coincide.  `C14_vec`, `C14_set`, `C14_mset`: the
normal form is a function of the contents MODULO the current equalities and nothing else;
`C14_idem`: normalising a set again under the same idempotent `find` changes nothing.

Sets and multisets alike: the fold of insertions is sorted (strictly, for sets) and has the members
(the multiset) of the mapped contents, and these two determine a list.
-/
namespace EgglogVerif.Containers

/-- insert into a strictly increasing list, dropping duplicates -/
def insertUniq (x : Nat) : List Nat → List Nat
  | [] => [x]
  | y :: ys => if x < y then x :: y :: ys else if x = y then y :: ys else y :: insertUniq x ys

/-- insert into a non-decreasing list, keeping duplicates -/
def insertSorted (x : Nat) : List Nat → List Nat
  | [] => [x]
  | y :: ys => if x ≤ y then x :: y :: ys else y :: insertSorted x ys

def normVec (find : Nat → Nat) (l : List Nat) : List Nat := l.map find
def normSet (find : Nat → Nat) (l : List Nat) : List Nat := (l.map find).foldl (fun acc x => insertUniq x acc) []
def normMSet (find : Nat → Nat) (l : List Nat) : List Nat := (l.map find).foldl (fun acc x => insertSorted x acc) []

section
variable {R : Nat → Nat → Prop} {x y : Nat} {ys : List Nat}

theorem pairwise_cons_cons (trans : ∀ {a b c}, R a b → R b c → R a c) (hxy : R x y)
    (h : (y :: ys).Pairwise R) : (x :: y :: ys).Pairwise R :=
  List.pairwise_cons.mpr ⟨fun _ hb => (List.mem_cons.mp hb).elim (· ▸ hxy)
    fun hb => trans hxy (List.rel_of_pairwise_cons h hb), h⟩

theorem pairwise_cons_insert {ins : List Nat} (hmem : ∀ b ∈ ins, b = x ∨ b ∈ ys) (hyx : R y x)
    (h : (y :: ys).Pairwise R) (hins : ins.Pairwise R) : (y :: ins).Pairwise R :=
  List.pairwise_cons.mpr ⟨fun b hb => (hmem b hb).elim (· ▸ hyx) (List.rel_of_pairwise_cons h), hins⟩

end

theorem mem_insertUniq {x a : Nat} {l : List Nat} : a ∈ insertUniq x l ↔ a = x ∨ a ∈ l := by
  fun_induction insertUniq x l with
  | case1 => exact List.mem_cons
  | case2 => exact List.mem_cons
  | case3 ys => rw [List.mem_cons, or_self_left]
  | case4 y ys _ _ ih => rw [List.mem_cons, ih, List.mem_cons, or_left_comm]

theorem insertUniq_sorted (x : Nat) (l : List Nat) (h : l.Pairwise (· < ·)) :
    (insertUniq x l).Pairwise (· < ·) := by
  fun_induction insertUniq x l with
  | case1 => exact List.pairwise_singleton _ _
  | case2 y ys hxy => exact pairwise_cons_cons Nat.lt_trans hxy h
  | case3 => exact h
  | case4 y ys hxy hne ih =>
    exact pairwise_cons_insert (fun _ => mem_insertUniq.mp) (Nat.lt_of_le_of_ne (Nat.le_of_not_lt hxy) (Ne.symm hne))
      h (ih h.tail)

theorem insertSorted_perm (x : Nat) (l : List Nat) : (insertSorted x l).Perm (x :: l) := by
  fun_induction insertSorted x l with
  | case1 => exact .refl _
  | case2 => exact .refl _
  | case3 y ys _ ih => exact (ih.cons y).trans (.swap x y ys)

theorem insertSorted_sorted (x : Nat) (l : List Nat) (h : l.Pairwise (· ≤ ·)) :
    (insertSorted x l).Pairwise (· ≤ ·) := by
  fun_induction insertSorted x l with
  | case1 => exact List.pairwise_singleton _ _
  | case2 y ys hxy => exact pairwise_cons_cons Nat.le_trans hxy h
  | case3 y ys hxy ih =>
    exact pairwise_cons_insert (fun _ hb => List.mem_cons.mp ((insertSorted_perm x ys).subset hb))
      (Nat.le_of_not_le hxy) h (ih h.tail)

theorem normSet_sorted (find : Nat → Nat) (l : List Nat) : (normSet find l).Pairwise (· < ·) :=
  List.foldlRecOn _ _ .nil fun acc h x _ => insertUniq_sorted x acc h

theorem normMSet_sorted (find : Nat → Nat) (l : List Nat) : (normMSet find l).Pairwise (· ≤ ·) :=
  List.foldlRecOn _ _ .nil fun acc h x _ => insertSorted_sorted x acc h

theorem mem_normSet (find : Nat → Nat) (l : List Nat) (a : Nat) : a ∈ normSet find l ↔ a ∈ l.map find :=
  foldl_invariant _ (fun done acc => a ∈ acc ↔ a ∈ done) .rfl
    (fun done acc x h => by rw [mem_insertUniq, h, List.mem_append, List.mem_singleton, or_comm]) _

theorem normMSet_perm (find : Nat → Nat) (l : List Nat) : (normMSet find l).Perm (l.map find) :=
  foldl_invariant _ (fun done acc => acc.Perm done) .nil
    (fun done acc x h => (insertSorted_perm x acc).trans ((h.cons x).trans (List.perm_append_singleton x done).symm)) _

theorem strictSorted_ext {l₁ l₂ : List Nat} (h1 : l₁.Pairwise (· < ·)) (h2 : l₂.Pairwise (· < ·))
    (h : ∀ a, a ∈ l₁ ↔ a ∈ l₂) : l₁ = l₂ :=
  ((List.perm_ext_iff_of_nodup (h1.imp Nat.ne_of_lt) (h2.imp Nat.ne_of_lt)).mpr h).eq_of_pairwise
    (fun _ _ _ _ hab hba => absurd hab (Nat.lt_asymm hba)) h1 h2

/-- **Vec**: same value iff pointwise equal modulo the current equalities. -/
theorem C14_vec (find : Nat → Nat) (l₁ l₂ : List Nat) :
    normVec find l₁ = normVec find l₂ ↔ l₁.map find = l₂.map find := Iff.rfl

/-- **Set**: same value iff the same set of representatives — so unioning two elements collapses
them and can make two previously different sets the same value. -/
theorem C14_set (find : Nat → Nat) (l₁ l₂ : List Nat) :
    normSet find l₁ = normSet find l₂ ↔ ∀ a, a ∈ l₁.map find ↔ a ∈ l₂.map find := by
  simp only [← mem_normSet]
  exact ⟨fun h a => by rw [h], strictSorted_ext (normSet_sorted find l₁) (normSet_sorted find l₂)⟩

/-- normalising an already normal set under an idempotent `find` is the identity -/
theorem C14_idem (find : Nat → Nat) (hid : ∀ x, find (find x) = find x) (l : List Nat) :
    normSet find (normSet find l) = normSet find l := by
  rw [C14_set]
  intro a
  simp only [List.mem_map, mem_normSet]
  constructor
  · rintro ⟨_, ⟨c, hc, rfl⟩, rfl⟩; exact ⟨c, hc, (hid c).symm⟩
  · rintro ⟨c, hc, rfl⟩; exact ⟨find c, ⟨c, hc, rfl⟩, hid c⟩

/-- **MultiSet**: same value iff the same multiset of representatives. -/
theorem C14_mset (find : Nat → Nat) (l₁ l₂ : List Nat) :
    normMSet find l₁ = normMSet find l₂ ↔ (l₁.map find).Perm (l₂.map find) := by
  constructor
  · intro h; exact (normMSet_perm find l₁).symm.trans (h ▸ normMSet_perm find l₂)
  · intro h
    exact ((normMSet_perm find l₁).trans (h.trans (normMSet_perm find l₂).symm)).eq_of_pairwise
      (fun _ _ _ _ => Nat.le_antisymm) (normMSet_sorted find l₁) (normMSet_sorted find l₂)

example : normSet (fun x => if x = 2 then 1 else x) [3, 2, 1] = normSet (fun x => if x = 2 then 1 else x) [1, 3] := by decide

end EgglogVerif.Containers
